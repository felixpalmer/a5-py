/-
  C19 — the hex text form of an id round-trips, for EVERY natural number n (in particular every n < 2^64).
  `hex()` / `int(·,16)` are modelled from CPython's documented grammar (A5/Model/Hex.lean).
-/
import A5.Proofs.Hex

namespace A5.C19
open A5

/-- C19 (1): `hex_to_u64(u64_to_hex(n)) == n` for every natural number n. -/
theorem roundtrip (n : Nat) : hexToU64 (u64ToHex (n : Int)) = .ok (n : Int) := by
  unfold hexToU64 u64ToHex
  rw [if_pos (by omega)]
  simp only [Int.toNat_natCast, String.toList_ofList]
  unfold u64ToHexChars
  rw [parse_printed hexDigitChar_spec _ (hexDigits_lt n) (hexDigits_ne_nil n), hexDigits_value]

/-- C19 (2): the text is non-empty lower-case hexadecimal — no prefix, sign, or other character … -/
theorem lowercase_hex_only (n : Nat) :
    u64ToHexChars n ≠ [] ∧ ∀ c ∈ u64ToHexChars n, ('0' ≤ c ∧ c ≤ '9') ∨ ('a' ≤ c ∧ c ≤ 'f') := by
  unfold u64ToHexChars
  refine ⟨by simp [hexDigits_ne_nil], ?_⟩
  intro c hc
  simp only [List.mem_map] at hc
  obtain ⟨d, hd, rfl⟩ := hc
  have table : ∀ d : Fin 16, ('0' ≤ hexDigitChar d ∧ hexDigitChar d ≤ '9') ∨ ('a' ≤ hexDigitChar d ∧ hexDigitChar d ≤ 'f') := by
    decide
  exact table ⟨d, hexDigits_lt n d hd⟩

/-- … and has no padding: it starts with `0` only when n = 0, in which case it is exactly "0". -/
theorem no_padding (n : Nat) : ∃ c cs, u64ToHexChars n = c :: cs ∧ (c = '0' → n = 0 ∧ cs = []) := by
  obtain ⟨h, t, e, hz⟩ := hexDigits_head n
  refine ⟨hexDigitChar h, t.map hexDigitChar, by unfold u64ToHexChars; rw [e]; rfl, ?_⟩
  intro hc
  have hlt := hexDigits_lt n h (by rw [e]; simp)
  have h0 : h = 0 := by
    have := (hexDigitChar_spec ⟨h, hlt⟩).2
    rw [hc] at this
    exact this.symm
  obtain ⟨hn, ht⟩ := hz h0
  exact ⟨hn, by rw [ht]; rfl⟩

/-- C19 (3): string equality can be used as id equality: ids with equal strings are equal. -/
theorem injective (m n : Nat) (h : u64ToHex (m : Int) = u64ToHex (n : Int)) : m = n := by
  have hm := roundtrip m
  rw [h, roundtrip n] at hm
  have := Except.ok.inj hm
  omega

/-- C19 (4): parsing accepts upper case and leading zeros. -/
theorem parse_upper_and_padded (n k : Nat) :
    parseHexChars (List.replicate k '0' ++ (hexDigits n).map hexDigitCharU) = some (n : Int) ∧
    parseHexChars (List.replicate k '0' ++ u64ToHexChars n) = some (n : Int) := by
  have hlt : ∀ d ∈ List.replicate k 0 ++ hexDigits n, d < 16 := by
    intro d hd
    rcases List.mem_append.1 hd with hd | hd
    · rw [(List.mem_replicate.1 hd).2]
      decide
    · exact hexDigits_lt n d hd
  have hne : List.replicate k 0 ++ hexDigits n ≠ [] := by simp [hexDigits_ne_nil]
  -- the padded text is the printed form of the padded digit string: both printers print 0 as '0'
  have pad : ∀ f : Nat → Char, f 0 = '0' →
      List.replicate k '0' ++ (hexDigits n).map f = (List.replicate k 0 ++ hexDigits n).map f := by
    intro f h0
    rw [List.map_append, List.map_replicate, h0]
  constructor
  · rw [pad _ rfl, parse_printed hexDigitCharU_spec _ hlt hne, digitsValue_zeros_append, hexDigits_value]
  · rw [u64ToHexChars, pad _ rfl, parse_printed hexDigitChar_spec _ hlt hne, digitsValue_zeros_append, hexDigits_value]

/-! non-vacuity / sanity -/
example : u64ToHexChars 255 = ['f', 'f'] := by
  unfold u64ToHexChars; rw [hexDigits, dif_neg (by omega), hexDigits, dif_pos (by omega)]; decide
example : parseHexChars ['0', 'x', '_', 'F', 'f'] = some 255 := by decide
example : parseHexChars ['f', '_', '_', 'f'] = none := by decide

end A5.C19
