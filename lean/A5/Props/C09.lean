/-
  C09 — compact output is the unique minimal, duplicate-free representation.
  For every antichain of valid ids (duplicates allowed, resolutions mixed, any order).
  (Proved for the repaired algorithm: hierarchical sort key, fix commit c1fbec5.)
-/
import A5.Proofs.Sorted

namespace A5.C09
open A5

/-- the hypotheses of C09; the same id may occur several times -/
def AntichainInput (X : List Nat) : Prop := (∀ c, c ∈ X → ValidId c) ∧ Antichain X

/-- C09 (1)–(3): on an antichain, `compact` returns each output cell once, returns an antichain with the same coverage,
    and leaves no complete sibling group (4, 5 or all 12) un-merged. -/
theorem minimal (X : List Nat) (hX : AntichainInput X) :
    ∃ Y, compact X = .ok Y ∧ (∀ c, c ∈ Y → ValidId c) ∧ Y.Nodup ∧ Antichain Y ∧ Reduced Y ∧
      (∀ x, IsLeaf x → (CoveredBy Y x ↔ CoveredBy X x)) := by
  obtain ⟨Y, h1, ⟨h2, h3⟩, h4, h5⟩ := compact_antichain 29 X (allValid29 hX.1) hX.2
  have hvY : ∀ c, c ∈ Y → ValidId c := fun c hc => (h2 c hc).1
  exact ⟨Y, h1, hvY, h4.nodup hvY, h4.antichain hvY, h5, fun x hx => h3 x hx.1 hx.2⟩

/-- C09 (4): the result is canonical — two antichains covering the same region compact to the same cell set. -/
theorem canonical (X₁ X₂ : List Nat) (h₁ : AntichainInput X₁) (h₂ : AntichainInput X₂)
    (hsame : ∀ x, IsLeaf x → (CoveredBy X₁ x ↔ CoveredBy X₂ x)) :
    ∃ Y₁ Y₂, compact X₁ = .ok Y₁ ∧ compact X₂ = .ok Y₂ ∧ ∀ c, c ∈ Y₁ ↔ c ∈ Y₂ := by
  obtain ⟨Y₁, e₁, v₁, _, a₁, r₁, c₁⟩ := minimal X₁ h₁
  obtain ⟨Y₂, e₂, v₂, _, a₂, r₂, c₂⟩ := minimal X₂ h₂
  have hcov : ∀ x, IsLeaf x → (CoveredBy Y₁ x ↔ CoveredBy Y₂ x) := fun x hx =>
    ((c₁ x hx).trans (hsame x hx)).trans (c₂ x hx).symm
  refine ⟨Y₁, Y₂, e₁, e₂, fun c => ⟨reduced_subset v₁ v₂ a₁ r₁ r₂ hcov c, ?_⟩⟩
  exact reduced_subset v₂ v₁ a₂ r₂ r₁ (fun x hx => (hcov x hx).symm) c

/-- C09 (5): the result as a set does not depend on input order or duplication … -/
theorem order_and_duplication_invariant (X₁ X₂ : List Nat) (h₁ : AntichainInput X₁)
    (hperm : ∀ c, c ∈ X₁ ↔ c ∈ X₂) :
    ∃ Y₁ Y₂, compact X₁ = .ok Y₁ ∧ compact X₂ = .ok Y₂ ∧ ∀ c, c ∈ Y₁ ↔ c ∈ Y₂ := by
  have h₂ : AntichainInput X₂ :=
    ⟨fun c hc => h₁.1 c ((hperm c).2 hc), fun a ha b hb hc => h₁.2 a ((hperm a).2 ha) b ((hperm b).2 hb) hc⟩
  exact canonical X₁ X₂ h₁ h₂ fun x _ => exists_congr fun z => and_congr_left' (hperm z)

/-- … and compacting it again changes nothing. -/
theorem idempotent (X : List Nat) (hX : AntichainInput X) :
    ∃ Y Y', compact X = .ok Y ∧ compact Y = .ok Y' ∧ ∀ c, c ∈ Y' ↔ c ∈ Y := by
  obtain ⟨Y, e, v, _, a, _, cov⟩ := minimal X hX
  obtain ⟨Y₁, Y₂, e₁, e₂, hmem⟩ := canonical Y X ⟨v, a⟩ hX cov
  rw [e] at e₂
  cases e₂
  exact ⟨Y, Y₁, e, e₁, hmem⟩

/-! non-vacuity, on two representatives of the input on which the pinned tree failed (the five segments of face 0
    together with faces 1..11) -/
example : ValidId (encId 3 0 1) ∧ ValidId (encId 9 0 0) ∧ ¬ Covers (encId 9 0 0) (encId 3 0 1) := by
  refine ⟨Or.inr ⟨3, 0, 1, by decide, rfl⟩, Or.inr ⟨9, 0, 0, by decide, rfl⟩, ?_⟩
  rw [encId_eq_node (by decide) (by decide), encId_eq_node (by decide) (by decide), covers_node (WF.isNode (by decide)) (WF.isNode (by decide))]
  decide

end A5.C09
