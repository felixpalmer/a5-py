/-
  C12 — "simple ring", planar half, unconditionally: the planar pentagon of EVERY cell (every level, anchor, flip state, k, invertible
  quintant matrix) is strictly convex — all five turning determinants have one strict sign — hence a simple polygon whose vertices are
  in one consistent rotational order; exact arithmetic on the exact values of the implementation's double constants.
  (Resolution-1 cells use a triangle instead of the pentagon; faces use the whole pentagon.)  What the sphere adds — the projection keeps
  the ring simple and the final reversal makes it counter-clockwise as seen from outside — is numeric and swept on the real code.
-/
import A5.Proofs.CentreInside

namespace A5.C12
open A5 A5.Hilbert A5.Planar

theorem planar_ring_strictly_convex (rot : ℚ × ℚ × ℚ × ℚ) (hdet : rot.1 * rot.2.2.2 - rot.2.1 * rot.2.2.1 ≠ 0)
    (h : Nat) (a : Anchor) : StrictlyConvex (place baseQ basisQ slQ srQ rot h a) :=
  convex_of_aff (by rw [mkShape_length, baseQ_length]) (place_naff baseQ basisQ slQ srQ rot hdet h a) baseQ_convex

/-- sharpness: a pentagon with a reflex vertex is rejected -/
example : ¬ StrictlyConvex [((0 : ℚ), (0 : ℚ)), (2, 0), (1, 1), (2, 2), (0, 2)] := by
  unfold StrictlyConvex
  decide +kernel

end A5.C12
