/-
  C15 — geodetic ↔ authalic latitude conversion (partial).

  Proved here over ℝ, for ANY six coefficients (hence for both coefficient tables whatever their values): the conversion is odd,
  fixes 0 and ±π/2.  The executable model (A5/Model/Authalic.lean, IEEE doubles) is compared bit for bit with the implementation.
  NOT proved (named assumptions, exercised by the sweep against the closed-form WGS84 authalic latitude): agreement with the
  closed form to 1e-10 rad, inverse∘forward within 1e-12 rad, strict monotonicity in floating point.
-/
import A5.Model.Authalic
import Mathlib.Analysis.SpecialFunctions.Trigonometric.Basic

namespace A5.C15
open Real

/-- the real-number semantics of `_apply_coefficients` -/
noncomputable def applyR (C : Fin 6 → ℝ) (φ : ℝ) : ℝ :=
  let s := sin φ
  let c := cos φ
  let X := 2 * (c - s) * (c + s)
  let u0 := X * C 5 + C 4
  let u1 := X * u0 + C 3
  let u0' := X * u1 - u0 + C 2
  let u1' := X * u0' - u1 + C 1
  let u0'' := X * u1' - u0' + C 0
  φ + 2 * s * c * u0''

def clen (u v : ℝ → ℝ) (c : ℝ) (X : ℝ) : ℝ := X * u X - v X + c

/-- the Clenshaw recurrence of `applyR` as a function of `X` -/
def U (C : Fin 6 → ℝ) : ℝ → ℝ :=
  let u0 := clen (fun _ => C 5) (fun _ => 0) (C 4)
  let u1 := clen u0 (fun _ => 0) (C 3)
  let u2 := clen u1 u0 (C 2)
  let u3 := clen u2 u1 (C 1)
  clen u3 u2 (C 0)

/-- by `X = 2 cos 2φ` and `2 sin φ cos φ = sin 2φ` -/
theorem applyR_eq (C : Fin 6 → ℝ) (φ : ℝ) : applyR C φ = φ + sin (2 * φ) * U C (2 * cos (2 * φ)) := by
  have hX : 2 * (cos φ - sin φ) * (cos φ + sin φ) = 2 * cos (2 * φ) := by
    rw [cos_two_mul, ← sin_sq_add_cos_sq φ]; ring
  simp only [applyR, U, clen, sub_zero, hX, sin_two_mul]

theorem odd (C : Fin 6 → ℝ) (φ : ℝ) : applyR C (-φ) = -applyR C φ := by
  rw [applyR_eq, applyR_eq, mul_neg, sin_neg, cos_neg]
  ring

theorem fixes_zero (C : Fin 6 → ℝ) : applyR C 0 = 0 := by
  rw [applyR_eq, mul_zero, sin_zero, zero_mul, add_zero]

theorem fixes_pole (C : Fin 6 → ℝ) : applyR C (π / 2) = π / 2 ∧ applyR C (-(π / 2)) = -(π / 2) := by
  have h : 2 * (π / 2) = π := by ring
  constructor
  · rw [applyR_eq, h, sin_pi, zero_mul, add_zero]
  · rw [applyR_eq, mul_neg, h, sin_neg, sin_pi, neg_zero, zero_mul, add_zero]

theorem correction_form (C : Fin 6 → ℝ) (φ : ℝ) : ∃ u : ℝ, applyR C φ = φ + sin (2 * φ) * u := ⟨_, applyR_eq C φ⟩

/-! the coefficient tables of the implementation (bit patterns), as used by the executable model -/
theorem tables_present : Tables.GEODETIC_TO_AUTHALIC_BITS.length = 6 ∧ Tables.AUTHALIC_TO_GEODETIC_BITS.length = 6 := by decide

/-- the full-strength statement kept visible: strictly increasing on [−π/2, π/2] (not proved here; assumption `H-monotone`) -/
def StrictlyIncreasing (C : Fin 6 → ℝ) : Prop := ∀ a b : ℝ, -(π / 2) ≤ a → a < b → b ≤ π / 2 → applyR C a < applyR C b

end A5.C15
