/-
  C07 — planar coherence of the hierarchy, proved for EVERY level, every index, all six orientations, unbounded depth (exact arithmetic on
  the exact values of the implementation's double constants):

    * `one_step`: the centroid of the planar pentagon of index s at Hilbert level n+1 lies within 0.46 parent widths of the centroid of
      the pentagon of index s/4 at level n (width² = planar area of the parent cell);
    * `planar_coherence`: hence the centroid of any descendant, at any depth m, lies within 0.92 widths of its level-n₀ ancestor's.

  The objects are the model's own `sToAnchor` (= `s_to_anchor`) and `Planar.place` (= `get_pentagon_vertices`), the functions the Float
  model runs and that are compared bit for bit with the implementation on every run.  What remains assumed for C07 is only the passage
  from the face plane to the sphere (the projection's distance distortion at cell scale, measured ≤ 1.53) and the levels below the curve
  (resolutions −1, 0, 1).
-/
import A5.Proofs.Drift
import A5.Props.C18
import A5.Props.C07
import Mathlib.Analysis.Complex.Norm

namespace A5.C07
open A5 A5.Hilbert A5.Planar

/-- the identity matrix (`centroid_step` holds for every `rot`) -/
def idRot : ℚ × ℚ × ℚ × ℚ := (1, 0, 0, 1)

def centre (o : String) (n s : Nat) : ℚ × ℚ :=
  match sToAnchor s n o with
  | .ok a => cen (place baseQ basisQ slQ srQ idRot n a)
  | .error _ => (0, 0)

theorem one_step (o : String) (ho : o ∈ C18.Orientations) (n : Nat) (hn : 0 < n) (s : Nat) (hs : s < 4 ^ (n + 1)) :
    normsq ((centre o (n + 1) s).1 - (centre o n (s / 4)).1, (centre o (n + 1) s).2 - (centre o n (s / 4)).2)
      ≤ kappa2 * unitArea / 4 ^ n := by
  obtain ⟨ac, hc⟩ := C18.anchor_total o (n + 1) s
  obtain ⟨ap, hp⟩ := C18.anchor_total o n (s / 4)
  obtain ⟨δ, hδ, h⟩ := centroid_step o n hn s hs ac ap hc hp
  simp only [centre, hc, hp]
  rw [← Prod.fst_sub, ← Prod.snd_sub, h idRot]
  have e : normsq ((applyMat idRot (δ.1 / 2 ^ n, δ.2 / 2 ^ n)).1, (applyMat idRot (δ.1 / 2 ^ n, δ.2 / 2 ^ n)).2) = normsq δ / 4 ^ n := by
    simp only [applyMat, idRot, sc_mul, sc_add, normsq, one_mul, zero_mul, add_zero, zero_add, div_pow, ← add_div]
    rw [pow_right_comm]
    norm_num
  rw [e]
  exact div_le_div_of_nonneg_right hδ (by positivity)

/-- as a complex number, for the Euclidean norm -/
noncomputable def toC (v : ℚ × ℚ) : ℂ := ⟨(v.1 : ℝ), (v.2 : ℝ)⟩

theorem unitArea_pos : 0 < unitArea := by decide +kernel

/-- the width used below is the square root of the planar area of the ancestor's pentagon (cf. `C04.planar_area_value`) -/
theorem width_is_sqrt_area (n₀ : Nat) : (Real.sqrt (unitArea : ℝ) / 2 ^ n₀) ^ 2 = (unitArea : ℝ) / 4 ^ n₀ := by
  have : (0:ℝ) ≤ (unitArea : ℝ) := Rat.cast_nonneg.2 unitArea_pos.le
  rw [div_pow, Real.sq_sqrt this, pow_right_comm]; norm_num

theorem one_step_norm (o : String) (ho : o ∈ C18.Orientations) (n : Nat) (hn : 0 < n) (s : Nat) (hs : s < 4 ^ (n + 1)) :
    ‖toC (centre o (n + 1) s) - toC (centre o n (s / 4))‖ ≤ (46 / 100) * (Real.sqrt (unitArea : ℝ) / 2 ^ n) := by
  have h := (Rat.cast_le (K := ℝ)).2 (one_step o ho n hn s hs)
  simp only [normsq, kappa2, Rat.cast_div, Rat.cast_mul, Rat.cast_pow, Rat.cast_ofNat, Rat.cast_add, Rat.cast_sub] at h
  rw [Complex.norm_def]
  refine Real.sqrt_le_iff.2 ⟨by positivity, ?_⟩
  rw [mul_pow, width_is_sqrt_area]
  simpa only [toC, Complex.normSq_apply, Complex.sub_re, Complex.sub_im, ← sq, mul_div_assoc] using h

/-- C07 (any depth): the centroid of the cell of index s at level n₀+m lies within 2·0.46·(1 − 2^−m) widths of the centroid of its
    level-n₀ ancestor (index s / 4^m), the width being √(planar area) of the ancestor: `telescoping_of` along the chain of ancestors -/
theorem planar_coherence (o : String) (ho : o ∈ C18.Orientations) (n₀ : Nat) (hn : 0 < n₀) (m : Nat) :
    ∀ s, s < 4 ^ (n₀ + m) →
      ‖toC (centre o (n₀ + m) s) - toC (centre o n₀ (s / 4 ^ m))‖
        ≤ 2 * (46 / 100) * (Real.sqrt (unitArea : ℝ) / 2 ^ n₀) * (1 - 1 / 2 ^ m) := by
  intro s hs
  let x : Nat → ℂ := fun k => toC (centre o (n₀ + k) (s / 4 ^ (m - k)))
  have hx : ‖x m - x 0‖ ≤ (Finset.range m).sum fun k => ‖x (k + 1) - x k‖ := by
    simpa only [dist_eq_norm'] using dist_le_range_sum_dist x m
  have hstep : ∀ k < m, ‖x (k + 1) - x k‖ ≤ 46 / 100 * (Real.sqrt (unitArea : ℝ) / 2 ^ n₀ / 2 ^ k) := by
    intro k hk
    have e : m - k = (m - (k + 1)) + 1 := by rw [← Nat.sub_sub, Nat.sub_add_cancel (Nat.sub_pos_of_lt hk)]
    have h4 : s / 4 ^ (m - (k + 1)) < 4 ^ (n₀ + k + 1) := by
      rw [Nat.div_lt_iff_lt_mul (by positivity), ← pow_add]
      rwa [add_assoc n₀, add_assoc, Nat.add_sub_cancel' hk]
    have := one_step_norm o ho (n₀ + k) (Nat.add_pos_left hn k) _ h4
    rw [Nat.div_div_eq_div_mul, ← pow_succ, ← e] at this
    simpa only [x, div_div, ← pow_add, add_assoc] using this
  simpa only [x, Nat.sub_self, Nat.sub_zero, pow_zero, Nat.div_one, add_zero] using
    hx.trans (telescoping_of (46 / 100) (Real.sqrt (unitArea : ℝ) / 2 ^ n₀) _ m hstep)

theorem planar_coherence_092 (o : String) (ho : o ∈ C18.Orientations) (n₀ : Nat) (hn : 0 < n₀) (m s : Nat) (hs : s < 4 ^ (n₀ + m)) :
    ‖toC (centre o (n₀ + m) s) - toC (centre o n₀ (s / 4 ^ m))‖ ≤ (92 / 100) * (Real.sqrt (unitArea : ℝ) / 2 ^ n₀) := by
  refine (planar_coherence o ho n₀ hn m s hs).trans ?_
  rw [show (92 : ℝ) / 100 = 2 * (46 / 100) by norm_num]
  exact mul_le_of_le_one_right (by positivity) (sub_le_self 1 (by positivity))

/-! non-vacuity -/
example : "vw" ∈ C18.Orientations ∧ 0 < 3 ∧ 2741 < 4 ^ (3 + 3) := by decide

end A5.C07
