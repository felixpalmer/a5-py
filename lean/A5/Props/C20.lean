/-
  C20 — cell-count and area metadata agree with the actual hierarchy.
-/
import A5.Props.C06

namespace A5.C20
open A5

/-- C20 (1): `get_num_cells(r)` is the number of distinct cells obtained by expanding the world cell to r. -/
theorem numCells_is_enumeration_size (r : Nat) (hr : r ≤ 29) :
    ∃ L, cellToChildren WORLD_CELL (some (r : Int)) = .ok L ∧ L.Nodup ∧ L.length = getNumCells r :=
  let ⟨L, h1, h2, h3, _⟩ := world_children_enumeration r hr
  ⟨L, h1, h2, h3⟩

/-- C20 (2): the level count is the coarser level's count times the per-cell child count … -/
theorem numCells_mul (a b : Nat) (hab : a ≤ b) : getNumCells b = getNumCells a * getNumChildren a b :=
  getNumCells_mul hab

/-- … hence the sum of the children counts over *any* list of `get_num_cells(a)` cells of resolution a (the enumeration) -/
theorem numCells_sum (a b : Nat) (ha : a ≤ 29) (hab : a ≤ b) :
    ∃ L, cellToChildren WORLD_CELL (some (a : Int)) = .ok L ∧
      (L.map fun c => getNumChildren (getResolution c) b).sum = getNumCells b := by
  obtain ⟨L, h1, _, h3, h4⟩ := world_children_enumeration a ha
  refine ⟨L, h1, ?_⟩
  have : L.map (fun c => getNumChildren (getResolution c) b) = L.map (fun _ => getNumChildren a b) :=
    List.map_congr_left fun c hc => by rw [((h4 c).1 hc).2]
  rw [this, List.map_const', List.sum_replicate_nat, h3, numCells_mul a b hab]

/-- C20 (3): the child-count rule used to size outputs equals the length of `cell_to_children`
    for every resolution pair and every cell (symbolic position) -/
theorem numChildren_is_children_length {t S r : Nat} (h : WF t S r) (b : Nat) (hrb : r ≤ b) (hb : b ≤ 29) :
    ∃ L, cellToChildren (encId t S r) (some (b : Int)) = .ok L ∧ L.length = getNumChildren r b :=
  let ⟨L, h1, _, h3, _⟩ := C06.children_spec h b hrb hb
  ⟨L, h1, h3⟩

theorem numChildren_is_children_length_world (b : Nat) (hb : b ≤ 29) :
    ∃ L, cellToChildren WORLD_CELL (some (b : Int)) = .ok L ∧ L.length = getNumChildren (-1) b :=
  let ⟨L, h1, _, h3, _⟩ := C06.children_of_world b hb
  ⟨L, h1, h3⟩

/-! the implementation's closed forms equal the model on the whole finite domain (tables produced by calling
    the real functions; re-decided on every run)

  The generated tables list `get_num_cells(r)` for r = −2..31 (34 entries, `i - 2`: the world cell −1 up to
  MAX_RESOLUTION = 30 and one step beyond on either side), and `get_num_children(a, b)`, `cell_area(r)` for
  a, b, r = −1..30 (32 values each, `i - 1`). -/

theorem numCells_table : (List.range 34).map (fun (i : Nat) => getNumCells ((i : Int) - 2)) = Tables.NUM_CELLS_TABLE := by
  decide +kernel

theorem numChildren_table :
    (List.range 32).flatMap (fun (a : Nat) => (List.range 32).map fun (b : Nat) => getNumChildren ((a : Int) - 1) ((b : Int) - 1))
      = Tables.NUM_CHILDREN_TABLE := by
  decide +kernel

/-- `cell_area(r)` for r = −1..30 (`i - 1`), each value evaluated by the kernel once: most of that work is the conversion of
    `get_num_cells(r)` to a float.  The three statements that follow are read off this list. -/
theorem cellArea_list :
    let A := (List.range 32).map fun (i : Nat) => cellArea ((i : Int) - 1)
    A.map Float.toBits = Tables.CELL_AREA_BITS ∧ A.IsChain (· > ·) ∧
      ∀ i ∈ List.range 32, 0 < i → (cellArea ((i : Int) - 1) * (getNumCells ((i : Int) - 1)).toFloat == AUTHALIC_AREA) = true := by
  decide +kernel

theorem cellArea_table : (List.range 32).map (fun (i : Nat) => (cellArea ((i : Int) - 1)).toBits) = Tables.CELL_AREA_BITS := by
  rw [← cellArea_list.1, List.map_map]
  rfl

/-- C20 (4): for r = 0..30, `cell_area(r) * get_num_cells(r)` equals the authalic sphere area (here: exactly, in IEEE-754
    binary64 arithmetic evaluated by the kernel — a complete case analysis of the 31-element domain, not a sample) -/
theorem area_times_count : ∀ i : Fin 31, (cellArea (i.val : Int) * (getNumCells (i.val : Int)).toFloat == AUTHALIC_AREA) = true := by
  intro i
  have h := cellArea_list.2.2 (i + 1) (List.mem_range.2 (Nat.succ_lt_succ i.2)) i.val.succ_pos
  rwa [Nat.cast_succ, add_sub_cancel_right] at h

/-- C20 (5): `cell_area` is strictly decreasing in r over −1..30 -/
theorem area_strictly_decreasing : ∀ i : Fin 31, cellArea (i.val : Int) < cellArea ((i.val : Int) - 1) := by
  intro i
  have h := List.isChain_iff_getElem.1 cellArea_list.2.1 i (by rw [List.length_map, List.length_range]; exact Nat.succ_lt_succ i.2)
  rwa [List.getElem_map, List.getElem_map, List.getElem_range, List.getElem_range, Nat.cast_succ, add_sub_cancel_right] at h

/-! non-vacuity -/
example : getNumCells 3 = 960 := by decide
example : WF 59 (4 ^ 28 - 1) 29 := by decide

end A5.C20
