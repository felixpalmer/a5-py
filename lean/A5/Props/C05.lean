/-
  C05 — Cell ids are a faithful 64-bit code: decode/encode are inverse, ids unique.

  Every theorem quantifies over a *symbolic* position S — all up to 2^56 positions of a resolution at once —
  every face, every segment and every resolution 0..29.
-/
import A5.Proofs.Codec
import A5.Proofs.Tree

namespace A5.C05
open A5

def ValidUpTo (maxr : Int) (c : Cell) : Prop :=
  c.origin < 12 ∧ (0 ≤ c.segment ∧ c.segment < 5) ∧ (0 ≤ c.res ∧ c.res ≤ maxr) ∧
  (0 ≤ c.S ∧ c.S.toNat < npos c.res.toNat)

/-- The full-strength statement is at resolutions 0..MAX_RESOLUTION. -/
def Statement (maxr : Int) : Prop :=
  ∀ c : Cell, ValidUpTo maxr c →
    ∃ n, serialize c = .ok n ∧ 1 ≤ n ∧ n < 2 ^ 64 ∧ getResolution n = c.res ∧ deserialize n = .ok c.canon

/-- C05 (1): holds for every resolution 0..29. -/
theorem roundtrip_partial : Statement 29 := by
  intro c ⟨ho, hs, hr, hp⟩
  exact des_ser c ⟨ho, hs, hr, hp⟩

/-- C05 (1'), the known finding: the statement at MAX_RESOLUTION = 30 is *false* — no resolution-30 cell can be
    encoded at all (the marker bit would sit at position −1). -/
theorem res30_unencodable (o : Nat) (sg S : Int) :
    serialize { origin := o, segment := sg, S := S, res := MAXR } = .error .value := by
  rw [MAXR_eq]; exact serialize_res30 o sg S

theorem statement_fails_at_MAX_RESOLUTION : ¬ Statement MAXR := by
  intro h
  have hv : ValidUpTo MAXR { origin := 0, segment := 0, S := 0, res := 30 } :=
    ⟨by decide, by decide, by decide, by decide, by decide⟩
  obtain ⟨n, hn, _⟩ := h _ hv
  rw [serialize_res30] at hn
  cases hn

/-- C05 (2): distinct cells get distinct ids. -/
theorem injective (c₁ c₂ : Cell) (h₁ : ValidUpTo 29 c₁) (h₂ : ValidUpTo 29 c₂)
    (n : Nat) (e₁ : serialize c₁ = .ok n) (e₂ : serialize c₂ = .ok n) : c₁.canon = c₂.canon := by
  obtain ⟨n₁, s₁, _, _, _, d₁⟩ := roundtrip_partial c₁ h₁
  obtain ⟨n₂, s₂, _, _, _, d₂⟩ := roundtrip_partial c₂ h₂
  rw [e₁] at s₁; rw [e₂] at s₂
  cases s₁; cases s₂
  rw [d₁] at d₂
  exact Except.ok.inj d₂

/-- C05 (3): re-encoding a decoded valid id returns the id. -/
theorem reencode (n : Nat) (h : ValidId n) : (deserialize n).bind serialize = .ok n := by
  rcases h with rfl | ⟨t, S, r, hwf, rfl⟩
  · rw [deserialize_world, bind_ok]
    rfl
  · rw [deserialize_encId hwf, bind_ok]
    exact serialize_decodeCell hwf

theorem validId_iff (n : Nat) : ValidId n ↔ n = 0 ∨ ∃ c, ValidUpTo 29 c ∧ serialize c = .ok n := by
  refine or_congr_right ⟨?_, ?_⟩
  · rintro ⟨t, S, r, hwf, rfl⟩
    have hv := decodeCell_valid hwf
    exact ⟨decodeCell t S r, ⟨hv.origin, hv.seg, hv.res, hv.pos⟩, serialize_decodeCell hwf⟩
  · rintro ⟨c, ⟨ho, hs, hr, hp⟩, hn⟩
    obtain ⟨t, S, r, hwf, -, hs, -⟩ := serialize_valid c ⟨ho, hs, hr, hp⟩
    rw [hs] at hn
    cases hn
    exact ⟨t, S, r, hwf, rfl⟩

/-- C05 (5): encoding never silently produces an id for a position that does not fit its resolution
    (any cell record whatsoever, any integers). The two guards on `S` come right after the tests
    `resolution > MAX_RESOLUTION` and `== -1`, before the resolution is used as a shift, and so hold for resolutions
    below −1 as well. -/
theorem rejects_unfit_position (c : Cell) (n : Nat) (h : serialize c = .ok n) (hw : c.res ≠ -1) :
    0 ≤ c.S ∧ (c.res < 2 → c.S = 0) ∧ (2 ≤ c.res → c.S < 4 ^ (c.res - 1).toNat) := by
  have hg : 0 ≤ c.S ∧ (c.res < 2 → c.S = 0) := by
    unfold serialize at h
    obtain ⟨-, h⟩ := guard_eq_ok h
    rw [if_neg hw] at h
    obtain ⟨c3, h⟩ := guard_eq_ok h
    obtain ⟨c4, -⟩ := guard_eq_ok h
    rw [FHR_eq] at c4
    exact ⟨Int.not_lt.1 c3, not_and_not_right.1 c4⟩
  refine ⟨hg.1, hg.2, fun h2 => ?_⟩
  obtain ⟨o, sg, S, r⟩ := c
  obtain ⟨r, rfl⟩ := Int.eq_ofNat_of_zero_le (Int.le_trans (by decide) h2)
  rw [serialize_spec, npos_pow] at h
  split at h
  · rename_i hv
    rw [show ((r : Int) - 1).toNat = r - 1 from Int.toNat_sub r 1]
    exact (Int.toNat_lt hv.2.1).1 hv.2.2
  · cases h

/-- C05 (4): the ids enumerated at resolution r (expansion of the world cell) are pairwise distinct, are exactly
    the valid ids of that resolution, and number get_num_cells(r). -/
theorem enumeration (r : Nat) (hr : r ≤ 29) :
    ∃ L, cellToChildren WORLD_CELL (some (r : Int)) = .ok L ∧ L.Nodup ∧ L.length = getNumCells r ∧
      ∀ x, x ∈ L ↔ (ValidId x ∧ getResolution x = (r : Int)) :=
  world_children_enumeration r hr

/-! non-vacuity -/
example : ValidUpTo 29 { origin := 7, segment := 3, S := 123456789, res := 17 } :=
  ⟨by decide, by decide, by decide, by decide, by decide⟩
example : ValidId 2 := Or.inr ⟨0, 0, 29, by decide, by decide⟩
example : serialize { origin := 3, segment := 1, S := 5, res := 3 } = .ok 4710765210229538816 := by decide

end A5.C05
