/-
  C02 / C18 — the lattice half of "a cell's centre maps back to the same cell", unconditionally, in exact arithmetic on the exact values
  of the implementation's double constants: for every Hilbert level n ≤ 30, every index s < 4^n and all six orientations, the centroid of
  the cell's planar pentagon (`get_pentagon_vertices(...).get_center()`, scaled to lattice units), taken through `face_to_ij`
  (BASIS_INVERSE), is mapped by `ij_to_s` to s.  This discharges the hypothesis of `C02.lattice_roundtrip` (centre strictly inside its
  unit triangle: margin ≥ 1/10 for all 16 shapes, decided by the kernel).  What remains assumed for C02 is the projection round trip
  (plane → sphere → plane within that margin) and IEEE rounding.
-/
import A5.Proofs.CentreMargin
import A5.Props.C18

namespace A5.C02
open A5 A5.Hilbert A5.Planar

/-- the centroid of the cell's pentagon in the lattice units of its own level, before the quintant rotation -/
def centreLattice (a : Anchor) : ℚ × ℚ := lattice (posOf baseQ basisQ slQ srQ a.flips a.k a.i a.j)

theorem centreLattice_is_place_centre (n : Nat) (a : Anchor) :
    centreLattice a = lattice (((cen (place baseQ basisQ slQ srQ (1, 0, 0, 1) n a)).1 * 2 ^ n), ((cen (place baseQ basisQ slQ srQ (1, 0, 0, 1) n a)).2 * 2 ^ n)) := by
  rw [cen_place baseQ baseQ_length, frame_cen]
  have hp : (2:ℚ) ^ n ≠ 0 := by positivity
  simp only [centreLattice, applyMat, sc_mul, sc_add, one_mul, zero_mul, add_zero, zero_add, mul_one_div, div_mul_cancel₀ _ hp]

theorem Tri_unit {f : Flips} {u v : ℚ} (h : Tri f 1 u v) : (-1 < u ∧ u < 1) ∧ (-1 < v ∧ v < 1) := by
  obtain ⟨fx, fy⟩ := f
  cases fx <;> cases fy
  all_goals
    obtain ⟨h1, h2, h3⟩ := h
    refine ⟨⟨?_, ?_⟩, ⟨?_, ?_⟩⟩ <;> linarith

theorem anchor_bounds (o : String) (ho : o ∈ C18.Orientations) (n s : Nat) (hs : s < 4 ^ n) (a : Anchor) (ha : sToAnchor s n o = .ok a) :
    |(a.i : ℚ)| ≤ 2 ^ n + 1 ∧ |(a.j : ℚ)| ≤ 2 ^ n + 1 := by
  obtain ⟨u, v, hδ⟩ := C18.tri_nonempty a.flips
  obtain ⟨h1, h2, h3⟩ := C18.inside_segment_all o ho n s hs a ha u v hδ
  obtain ⟨⟨b1, b2⟩, b3, b4⟩ := Tri_unit hδ
  rw [abs_le, abs_le]
  refine ⟨⟨?_, ?_⟩, ?_, ?_⟩ <;> linarith

/-- C02 (lattice half, unconditional): centre of the cell of index s → `face_to_ij` → `ij_to_s` = s -/
theorem centre_roundtrip (o : String) (ho : o ∈ C18.Orientations) (n : Nat) (hn : n ≤ 30) (s : Nat) (hs : s < 4 ^ n) (a : Anchor)
    (ha : sToAnchor s n o = .ok a) :
    ijToS (centreLattice a).1 (centreLattice a).2 n o = (s : Int) := by
  obtain ⟨bi, bj⟩ := anchor_bounds o ho n s hs a ha
  have hk := anchor_k_lt o n s hs a ha
  have hpow : (2:ℚ) ^ n + 1 ≤ 2 ^ 31 := (add_le_add_left (pow_le_pow_right₀ one_le_two hn) 1).trans (by norm_num)
  have hin := centre_in_triangle a.flips a.k hk a.i a.j (le_trans bi hpow) (le_trans bj hpow)
  have := C18.roundtrip o ho n s hs a ha _ _ hin
  simpa [centreLattice] using this

/-! non-vacuity -/
example : ∃ a, sToAnchor 2741 6 "wu" = .ok a := C18.anchor_total "wu" 6 2741

end A5.C02
