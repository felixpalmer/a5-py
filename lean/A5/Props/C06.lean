/-
  C06 — Parent/children form a consistent tree over ids.

  For every cell c (fields t S r, S symbolic) and resolutions a ≤ r ≤ b ≤ 29 — no bound on b − r.
-/
import A5.Proofs.Tree

attribute [local instance 2000] instPowNat  -- see Bits.lean

namespace A5.C06
open A5

def ParentIs (x : Nat) (a : Int) (p : Nat) : Prop := cellToParent x (some a) = .ok p

theorem covers_iff_parentIs {p x : Nat} : Covers p x ↔ ParentIs x (getResolution p) p := Iff.rfl

theorem parentIs_node {r i : Nat} (hn : IsNode (r + 1) i) {a : Nat} (ha : a ≤ r) :
    ParentIs (node (r + 1) i) a (node (a + 1) (i / fan (a + 1) (r + 1))) :=
  cellToParent_node hn (Nat.succ_le_succ ha) rfl

/-- C06 (1): `cell_to_children(c, b)` lists, without repetition, exactly the resolution-b cells whose
    `cell_to_parent(·, res c)` is `c`; their number is `get_num_children(res c, b)` (12, 5, then 4 per level). -/
theorem children_spec {t S r : Nat} (h : WF t S r) (b : Nat) (hrb : r ≤ b) (hb : b ≤ 29) :
    ∃ L, cellToChildren (encId t S r) (some (b : Int)) = .ok L ∧ L.Nodup ∧ L.length = getNumChildren r b ∧
      ∀ x, x ∈ L ↔ (ValidId x ∧ getResolution x = (b : Int) ∧ ParentIs x (r : Int) (encId t S r)) := by
  obtain ⟨i, hn, e⟩ := h.exists_node
  have := children_spec_node hn (Nat.succ_le_succ hrb) (Nat.succ_le_succ hb) (ρ := b) rfl
  rw [← getNumChildren_node (Nat.succ_le_succ hrb) (Nat.succ_le_succ hb) (ρa := r) (ρb := b) rfl rfl, ← e] at this
  simpa only [covers_iff_parentIs, getResolution_encId h] using this

/-- C06 (1, world cell): expanding the world cell lists each valid id of the level exactly once. -/
theorem children_of_world (b : Nat) (hb : b ≤ 29) :
    ∃ L, cellToChildren WORLD_CELL (some (b : Int)) = .ok L ∧ L.Nodup ∧ L.length = getNumChildren (-1) b ∧
      ∀ x, x ∈ L ↔ (ValidId x ∧ getResolution x = (b : Int)) := by
  obtain ⟨L, h1, h2, h3, h4⟩ := world_children_enumeration b hb
  exact ⟨L, h1, h2, by rw [getNumChildren_world]; exact h3, h4⟩

theorem parent_world {t S r : Nat} (h : WF t S r) : ParentIs (encId t S r) (-1) WORLD_CELL := by
  obtain ⟨i, hn, e⟩ := h.exists_node
  rw [e, WORLD_CELL_eq]
  exact cellToParent_node hn (Nat.zero_le _) rfl

/-- C06 (2): `cell_to_parent` composes: the parent of the parent is the parent at the coarser level. -/
theorem parent_comp {t S r : Nat} (h : WF t S r) (a a' : Nat) (ha : a ≤ r) (ha' : a' ≤ a) (p q : Nat)
    (hp : ParentIs (encId t S r) a p) (hq : ParentIs p a' q) : ParentIs (encId t S r) a' q := by
  obtain ⟨i, hn, e⟩ := h.exists_node
  rw [e] at hp ⊢
  obtain rfl := Except.ok.inj ((parentIs_node hn ha).symm.trans hp)
  obtain rfl := Except.ok.inj ((parentIs_node (hn.anc (Nat.succ_le_succ ha)) ha').symm.trans hq)
  rw [div_fan_div_fan (Nat.succ_le_succ ha') (Nat.succ_le_succ ha) hn.1]
  exact parentIs_node hn (Nat.le_trans ha' ha)

/-- C06 (2'): parents are total and valid for every coarser-or-equal resolution 0..res -/
theorem parent_total {t S r : Nat} (h : WF t S r) (a : Nat) (ha : a ≤ r) :
    ∃ p, ParentIs (encId t S r) a p ∧ ValidId p ∧ getResolution p = (a : Int) := by
  obtain ⟨i, hn, e⟩ := h.exists_node
  have hp := hn.anc (Nat.succ_le_succ ha)
  rw [e]
  exact ⟨_, parentIs_node hn ha, validId_iff_node.2 ⟨_, _, hp, rfl⟩, getResolution_node_succ hp⟩

/-- C06 (3): `cell_to_parent(c, a)` is the unique resolution-a cell having c among its descendants. -/
theorem parent_unique {t S r : Nat} (h : WF t S r) (a : Nat) (ha : a ≤ r)
    {tp Sp : Nat} (hp : WF tp Sp a) (L : List Nat)
    (hL : cellToChildren (encId tp Sp a) (some (r : Int)) = .ok L) (hmem : encId t S r ∈ L) :
    ParentIs (encId t S r) a (encId tp Sp a) := by
  obtain ⟨L', hL', _, _, hspec⟩ := children_spec hp r ha h.1
  rw [hL] at hL'
  cases hL'
  exact ((hspec _).1 hmem).2.2

/-- C06 (4): for res(c) ≥ 1 the descendants at resolution b are the arithmetic run `first + i·stride(b)`, i < 4^(b−r),
    and every valid resolution-b id between the first and the last of them is one of them (a contiguous run of that level's ids). -/
theorem contiguous {t S r : Nat} (h : WF t S r) (hr1 : 1 ≤ r) (b : Nat) (hrb : r < b) (hb : b ≤ 29) :
    ∃ L first stride, cellToChildren (encId t S r) (some (b : Int)) = .ok L ∧ getStride (b : Int) = .ok stride ∧
      L = (List.range (4 ^ (b - r))).map (fun i => first + i * stride) ∧
      ∀ x, ValidId x → getResolution x = (b : Int) → first ≤ x → x ≤ first + (4 ^ (b - r) - 1) * stride → x ∈ L := by
  obtain ⟨i, hn, e⟩ := h.exists_node
  have hab : r + 1 ≤ b + 1 := Nat.succ_le_succ (Nat.le_of_lt hrb)
  have hF := fan_hilbert hr1 (Nat.le_of_lt hrb) hb
  obtain ⟨L, h1, -, h3⟩ := children_node hn hab (Nat.succ_le_succ hb) (ρ := b) rfl
  rw [← e, h3 (Nat.succ_le_succ hr1)] at h1
  rw [← hF]
  refine ⟨_, node (b + 1) (i * fan (r + 1) (b + 1)), A5.stride b, h1, getStride_eq hb, ?_, ?_⟩
  · rw [below, List.range'_eq_map_range, List.map_map]
    exact List.map_congr_left fun k _ => node_add b _ k
  · intro x hv hres hlo hhi
    obtain ⟨ℓ, j, hj, rfl⟩ := validId_iff_node.1 hv
    obtain rfl : ℓ = b + 1 := Int.ofNat_inj.1 (Int.sub_eq_iff_eq_add.1 ((getResolution_node hj).symm.trans hres))
    rw [← node_add, node_le_iff] at hhi
    rw [node_le_iff] at hlo
    have := fan_pos hab (Nat.succ_le_succ hb)
    exact List.mem_map.2
      ⟨j, List.mem_range'_1.2 ⟨hlo, Nat.lt_of_le_of_lt hhi (Nat.add_lt_add_left (Nat.sub_lt this Nat.one_pos) _)⟩, rfl⟩

/-- C06 (5): out-of-order requests raise instead of returning cells. -/
theorem order_errors {t S r : Nat} (h : WF t S r) :
    (∀ b : Int, b < r → cellToChildren (encId t S r) (some b) = .error .value) ∧
    (∀ b : Int, 30 < b → cellToChildren (encId t S r) (some b) = .error .value) ∧
    (∀ a : Int, (r : Int) < a → cellToParent (encId t S r) (some a) = .error .value) ∧
    (∀ a : Int, a < -1 → cellToParent (encId t S r) (some a) = .error .value) := by
  obtain ⟨i, hn, e⟩ := h.exists_node
  rw [e]
  exact ⟨fun b hb => cellToChildren_coarser hn b (Int.add_lt_add_right hb 1), cellToChildren_too_fine hn,
    fun a ha => cellToParent_node_finer hn ha, fun a ha => cellToParent_below_world hn ha⟩

/-! non-vacuity -/
example : WF 37 1234567 13 := by decide
example : ∃ L, cellToChildren (encId 7 2 3) (some 5) = .ok L ∧ L.length = 16 :=
  have ⟨L, h1, _, h3, _⟩ := children_spec (t := 7) (S := 2) (r := 3) (by decide) 5 (by decide) (by decide)
  ⟨L, h1, h3⟩

end A5.C06
