/-
  C16 — results do not depend on what other threads are doing.

  What is proved (for every schedule, any number of threads, any history): a call that touches shared state only through
  the memo discipline — lazily filled slots holding a function of their key, an inert counter, read-only tables — returns its
  single-threaded value under ARBITRARY interference by other such calls.  That the library's code is in this class is not a
  theorem: it is checked on every run (static inventory of shared mutable objects + runtime proxies on the caches), see DESIGN.md.
  The pinned tree was NOT in the class (module-level scratch vectors): `scratch_not_safe` is the witness schedule.
-/
import A5.Proofs.EffectsProof

namespace A5.C16
open A5.Effects

variable {Slot Val Reg : Type} [DecidableEq Slot] [DecidableEq Reg]

/-- C16: under every interleaving with other calls (modelled as: before each atomic step the shared store may be replaced by
    any store satisfying the cache invariant) a disciplined call returns its sequential denotation and keeps the invariant. -/
theorem interference_free (f : Slot → Val) {α : Type} (p : Prog Slot Val Reg α) (d : α) (hd : Disc f p d)
    (σ : Store Slot Val Reg) (a : α) (σ' : Store Slot Val Reg) (hrun : Runs f p σ a σ') (hinv : Inv f σ) :
    a = d ∧ Inv f σ' :=
  disc_stable f p d hd σ a σ' hrun hinv

theorem bind_is_disciplined (f : Slot → Val) {α β : Type} (p : Prog Slot Val Reg α) (d : α) (hp : Disc f p d)
    (k : α → Prog Slot Val Reg β) (e : β) (hk : Disc f (k d) e) : Disc f (p.bind k) e := by
  induction hp with
  | ret a => exact hk
  | lookup s c d _ _ ih1 ih2 => exact Disc.lookup s _ e (ih1 hk) (ih2 hk)
  | fill s c d _ ih => exact Disc.fill s _ e (ih hk)
  | tick c d _ ih => exact Disc.tick _ e (ih hk)

/-- the lazily filled cache pattern used by the projection caches is disciplined -/
theorem memo_is_disciplined (f : Slot → Val) (s : Slot) (compute : Prog Slot Val Reg Val) (hc : Disc f compute (f s)) :
    Disc f (memo s compute) (f s) :=
  Disc.lookup s _ (f s) (Disc.ret _) (bind_is_disciplined f compute (f s) hc _ (f s) (Disc.fill s _ _ (Disc.ret _)))

/-- a value parked in a shared scratch register comes back as whatever another thread wrote there in between: any `y` is a possible result -/
theorem scratch_not_safe (f : Slot → Val) (r : Reg) (x y : Val) (σ : Store Slot Val Reg) (hσ : Inv f σ) :
    ∃ σ', Runs f (scratchRoundTrip (Slot := Slot) r x) σ y σ' := scratch_breaks f r x y σ hσ

/-! non-vacuity -/
example : Disc (Reg := Unit) (fun s : Nat => s * s) (memo (Slot := Nat) (Val := Nat) 7 (.ret 49)) 49 :=
  memo_is_disciplined (fun s : Nat => s * s) 7 (.ret 49) (Disc.ret 49)

end A5.C16
