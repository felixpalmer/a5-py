/-
  C02 — "cell_to_lonlat(c) lies strictly inside the cell's own boundary ring", planar half, unconditionally:
  for EVERY level, anchor (offset, flips, k) and every invertible quintant matrix, the vertex mean of the placed pentagon
  (`get_pentagon_vertices(...).get_center()`, the point `cell_to_lonlat` unprojects) lies strictly on the inner side of each of the
  pentagon's five edges — exact arithmetic on the exact values of the implementation's double constants.
  What remains assumed for the clause is that the projection (a homeomorphism of the face plane onto the sphere patch) and IEEE rounding
  keep the point inside the published ring; that is swept on the real code every run (H-inside).
-/
import A5.Proofs.CentreInside

namespace A5.C02
open A5 A5.Hilbert A5.Planar

/-- C02 (inside, planar): if the vertex mean of the base pentagon lies strictly inside it, the vertex mean of EVERY placed pentagon
    lies strictly inside that pentagon (the statement does not depend on the particular pentagon) -/
theorem centre_strictly_inside_generic (base : List (ℚ × ℚ)) (hb : base.length = 5) (basis : ℚ × ℚ × ℚ × ℚ) (sl sr : ℚ × ℚ)
    (rot : ℚ × ℚ × ℚ × ℚ) (hdet : rot.1 * rot.2.2.2 - rot.2.1 * rot.2.2.1 ≠ 0) (h : Nat) (a : Anchor)
    (hbase : StrictlyInside (mkShape base) (mean5 (mkShape base))) :
    StrictlyInside (place base basis sl sr rot h a) (mean5 (place base basis sl sr rot h a)) :=
  inside_of_aff (by rw [mkShape_length, hb]) (place_naff base basis sl sr rot hdet h a) hbase

theorem centre_strictly_inside_planar (rot : ℚ × ℚ × ℚ × ℚ) (hdet : rot.1 * rot.2.2.2 - rot.2.1 * rot.2.2.1 ≠ 0)
    (h : Nat) (a : Anchor) :
    StrictlyInside (place baseQ basisQ slQ srQ rot h a) (mean5 (place baseQ basisQ slQ srQ rot h a)) :=
  centre_strictly_inside_generic baseQ baseQ_length basisQ slQ srQ rot hdet h a baseQ_centre_inside

/-- sharpness: the predicate is not trivially true -/
example : ¬ StrictlyInside (mkShape baseQ) (5, 5) := by
  unfold StrictlyInside
  decide +kernel

example : ((1 : ℚ), (0 : ℚ), (0 : ℚ), (1 : ℚ)).1 * ((1 : ℚ), (0 : ℚ), (0 : ℚ), (1 : ℚ)).2.2.2 - 0 * 0 ≠ 0 := by norm_num

end A5.C02
