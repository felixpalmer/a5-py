/-
  C07 — the id hierarchy is spatially coherent (partial).

  PROVED: telescoping — if every one-level step moves the (planar) centre by at most κ parent widths, and widths halve per level,
  then a descendant at ANY depth lies within 2κ widths of its ancestor's centre (geometric series, exact arithmetic, unbounded depth);
  face/segment nesting at resolutions −1, 0, 1 is exact and part of the id tree (C06).
  TIED: the one-step drift κ is measured every run on the real code (exhaustively on low levels, all orientations); cell centres come
  from `cell_to_lonlat`, whose model is compared bit for bit.
  ASSUMED (numeric, swept): the one-step bound κ ≤ 0.72 holds at every level; the equal-area projection changes these planar distances by
  < 15 % (measured on the sphere directly, so 2κ ≤ 1.44 < 1.5).
-/
import Mathlib.Tactic.Linarith
import Mathlib.Tactic.Ring
import Mathlib.Algebra.BigOperators.Group.Finset.Basic
import Mathlib.Tactic.Positivity
import Mathlib.Algebra.Order.Field.Basic
import Mathlib.Algebra.Order.Ring.Rat

namespace A5.C07

/-- the geometric series behind C07 -/
theorem telescoping_of {K : Type*} [Field K] [LinearOrder K] [IsStrictOrderedRing K] (κ w : K) (d : Nat → K) (n : Nat)
    (hstep : ∀ k < n, d k ≤ κ * (w / 2 ^ k)) : (Finset.range n).sum d ≤ 2 * κ * w * (1 - 1 / 2 ^ n) := by
  induction n with
  | zero => simp
  | succ n ih =>
    have e : 2 * κ * w * (1 - 1 / 2 ^ (n + 1)) = 2 * κ * w * (1 - 1 / 2 ^ n) + κ * (w / 2 ^ n) := by
      rw [pow_succ]; ring
    rw [Finset.sum_range_succ, e]
    exact add_le_add (ih fun k hk => hstep k (Nat.lt_succ_of_lt hk)) (hstep n (Nat.lt_succ_self n))

/-- a descent path: `d k` = distance moved at step k (level r+k → r+k+1), widths halve each level -/
theorem telescoping (κ w : ℚ) (hκ : 0 ≤ κ) (hw : 0 < w) (d : Nat → ℚ)
    (hstep : ∀ k, d k ≤ κ * (w / 2 ^ k)) (n : Nat) :
    (Finset.range n).sum d ≤ 2 * κ * w * (1 - 1 / 2 ^ n) :=
  telescoping_of κ w d n fun k _ => hstep k

theorem descendants_stay_near (κ w : ℚ) (hκ : 0 ≤ κ) (hw : 0 < w) (d : Nat → ℚ)
    (hstep : ∀ k, d k ≤ κ * (w / 2 ^ k)) (n : Nat) : (Finset.range n).sum d ≤ 2 * κ * w :=
  (telescoping κ w hκ hw d hstep n).trans (mul_le_of_le_one_right (by positivity) (sub_le_self 1 (by positivity)))

/-- with the measured one-step bound κ = 0.72 (spherical, measured ≤ 0.703) -/
theorem bound_with_measured_kappa (w : ℚ) (hw : 0 < w) (d : Nat → ℚ) (hstep : ∀ k, d k ≤ (72 / 100) * (w / 2 ^ k)) (n : Nat) :
    (Finset.range n).sum d ≤ (144 / 100) * w :=
  (descendants_stay_near (72 / 100) w (by norm_num) hw d hstep n).trans_eq (by ring)

end A5.C07
