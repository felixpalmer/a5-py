/-
  C03 — cells of one resolution tile the globe (partial, thin).

  PROVED: per face the five segments and the five quintants correspond bijectively, with mutually inverse conversion functions that
  agree with the implementation's on their whole domain (60 + 60 entries tabulated from the real functions each run); within a
  segment the 4^h curve indices are in bijection with lattice cells (C18); each cell's planar polygon is a congruent copy of one base
  pentagon scaled by 2^−h, whose area is exactly one lattice triangle's (C04/C11); the number of cells is get_num_cells(r) (C20).
  ASSUMED (numeric, swept with a manifold certificate): edges of neighbouring cells coincide vertex for vertex across lattice lines,
  quintant seams, face edges and face vertices; the neighbour across an edge is what lonlat_to_cell returns beyond it.
-/
import A5.Model.Geo
import A5.Props.C18
import A5.Props.C04

namespace A5.C03
open A5 A5.Geo

theorem q2s_table_agree :
    ((List.range 12).flatMap fun o => (List.range 5).map fun q =>
      (o, q, (quintantToSegment (Int.ofNat q) o).1.toNat, (quintantToSegment (Int.ofNat q) o).2)) = Tables.Q2S_TABLE := by
  decide +kernel

theorem s2q_table_agree :
    ((List.range 12).flatMap fun o => (List.range 5).map fun s =>
      (o, s, (segmentToQuintant (Int.ofNat s) o).1.toNat, (segmentToQuintant (Int.ofNat s) o).2)) = Tables.S2Q_TABLE := by
  decide +kernel

/-- C03 (1): on every face, segment ↔ quintant are mutually inverse and carry the same curve orientation -/
theorem segment_quintant_bijection : ∀ o : Fin 12, ∀ q : Fin 5,
    segmentToQuintant (quintantToSegment (q.val : Int) o.val).1 o.val = ((q.val : Int), (quintantToSegment (q.val : Int) o.val).2) ∧
    quintantToSegment (segmentToQuintant (q.val : Int) o.val).1 o.val = ((q.val : Int), (segmentToQuintant (q.val : Int) o.val).2) ∧
    0 ≤ (quintantToSegment (q.val : Int) o.val).1 ∧ (quintantToSegment (q.val : Int) o.val).1 < 5 := by
  decide +kernel

theorem orientations_known : ∀ o : Fin 12, ∀ q : Fin 5, (quintantToSegment (q.val : Int) o.val).2 ∈ C18.Orientations := by
  decide +kernel

/-- C03 (2): within a segment, distinct indices occupy distinct lattice cells (C18) -/
theorem cells_of_a_segment_distinct (o : String) (ho : o ∈ C18.Orientations) (n s₁ s₂ : Nat) (h₁ : s₁ < 4 ^ n) (h₂ : s₂ < 4 ^ n)
    (a₁ a₂ : Hilbert.Anchor) (e₁ : Hilbert.sToAnchor s₁ n o = .ok a₁) (e₂ : Hilbert.sToAnchor s₂ n o = .ok a₂)
    (hi : a₁.i = a₂.i) (hj : a₁.j = a₂.j) (hf : a₁.flips = a₂.flips) : s₁ = s₂ :=
  C18.anchor_injective o ho n s₁ s₂ h₁ h₂ a₁ a₂ e₁ e₂ hi hj hf

/-- C03 (3): all tiles of a level have the same planar area (C04) -/
theorem tiles_equal_area (base : List (ℚ × ℚ)) (hb : base.length = 5) (basis : ℚ × ℚ × ℚ × ℚ) (sl sr : ℚ × ℚ) (rot : ℚ × ℚ × ℚ × ℚ)
    (hdet : rot.1 * rot.2.2.2 - rot.2.1 * rot.2.2.1 = 1) (h : Nat) (a₁ a₂ : Hilbert.Anchor) :
    Planar.area (Planar.place base basis sl sr rot h a₁) = Planar.area (Planar.place base basis sl sr rot h a₂) :=
  C04.planar_area_uniform base hb basis sl sr rot hdet h a₁ a₂

end A5.C03
