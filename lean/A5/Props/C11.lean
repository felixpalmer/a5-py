/-
  C11 — quantisation error and cell shape are bounded at every level (partial).

  PROVED (exact arithmetic, about `Planar.place`): every cell's planar polygon is a similar copy of the base pentagon with ratio
  2^−level (rotation matrix orthogonal), so its corners stay pairwise distinct at every level and every corner–centre distance is
  the base pentagon's divided by 2^level; kernel-evaluated IEEE check on the extracted constants: the base pentagon's five
  corner–centre distances lie between 0.35 and 1.0 cell widths (width = sqrt of the cell's planar area).
  ASSUMED (numeric, swept): H-quantisation centre of p's cell within 1.0·sqrt(cell_area) of p; H-shape the projection keeps the
  planar ratios within the stated band on the sphere.
-/
import A5.Proofs.Congruence
import A5.Model.CellGeo
import Mathlib.Tactic.Positivity

namespace A5.C11
open A5 A5.Planar

/-- C11 (shape): every placed pentagon is a similar copy of the base pentagon with ratio 2^−level (`Sim` takes the squared ratio,
    `1 / 4 ^ h`) — its five corners are pairwise as far apart, and as far from any affine landmark (centre), as the base pentagon's
    divided by 2^level -/
theorem similar_to_base (base : List (ℚ × ℚ)) (basis : ℚ × ℚ × ℚ × ℚ) (sl sr : ℚ × ℚ) (rot : ℚ × ℚ × ℚ × ℚ)
    (h1 : rot.1 * rot.1 + rot.2.2.1 * rot.2.2.1 = 1) (h2 : rot.2.1 * rot.2.1 + rot.2.2.2 * rot.2.2.2 = 1)
    (h3 : rot.1 * rot.2.1 + rot.2.2.1 * rot.2.2.2 = 0) (h : Nat) (a : Hilbert.Anchor) :
    Sim (mkShape base) (place base basis sl sr rot h a) (1 / 4 ^ h) := by
  exact ⟨_, by simpa only [mul_one] using sim_comp (frame_sim basis rot h1 h2 h3 h a.i a.j) (shapeMap_sim sl sr a.flips a.k),
    place_cases base basis sl sr rot h a⟩

/-- C11 (distinct corners): if the base pentagon's corners are distinct, so are every cell's -/
theorem corners_distinct (base : List (ℚ × ℚ)) (hnd : (mkShape base).Nodup) (basis : ℚ × ℚ × ℚ × ℚ) (sl sr : ℚ × ℚ) (rot : ℚ × ℚ × ℚ × ℚ)
    (h1 : rot.1 * rot.1 + rot.2.2.1 * rot.2.2.1 = 1) (h2 : rot.2.1 * rot.2.1 + rot.2.2.2 * rot.2.2.2 = 1)
    (h3 : rot.1 * rot.2.1 + rot.2.2.1 * rot.2.2.2 = 0) (h : Nat) (a : Hilbert.Anchor) :
    (place base basis sl sr rot h a).Nodup :=
  sim_nodup (by positivity) (similar_to_base base basis sl sr rot h1 h2 h3 h a) hnd

/-- squared corner–centre distance of vertex i of the base pentagon, in units of the planar cell area -/
def baseRatio (i : Nat) : Float :=
  let vs := CellGeo.pentagonBase
  let c : Float × Float := ((vs.map (·.1)).foldl (· + ·) 0.0 / 5, (vs.map (·.2)).foldl (· + ·) 0.0 / 5)
  let v := vs.getD i (0, 0)
  let d2 := (v.1 - c.1) * (v.1 - c.1) + (v.2 - c.2) * (v.2 - c.2)
  -- cell width² = planar area = |get_area| / 2
  d2 / (CellGeo.shapeArea vs / 2)

/-- between 0.35 and 1.0 cell widths (squared: 0.1225 .. 1.0) -/
theorem base_shape_band : ∀ i : Fin 5, (0.1225 < baseRatio i.val ∧ baseRatio i.val < 1.0) := by
  decide +kernel

end A5.C11
