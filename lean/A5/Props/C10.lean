/-
  C10 — uncompact expands each cell to exactly its descendants at the target level.
  For every list of valid ids (any length, any order, duplicates) and every target 0..29.
-/
import A5.Proofs.CompactLists
import A5.Props.C06

namespace A5.C10
open A5

theorem block_of_valid (c : Nat) (hv : ValidId c) (t : Nat) (ht : t ≤ 29) (hres : getResolution c ≤ (t : Int)) :
    ∃ B, cellToChildren c (some (t : Int)) = .ok B ∧ blockOf t c (getResolution c) = .ok B ∧
      B.length = getNumChildren (getResolution c) t ∧
      ∀ x, x ∈ B ↔ (ValidId x ∧ getResolution x = (t : Int) ∧ C06.ParentIs x (getResolution c) c) := by
  obtain ⟨a, i, h, rfl⟩ := validId_iff_node.1 hv
  have hr : getResolution (node a i) + 1 = a := by rw [getResolution_node h, Int.sub_add_cancel]
  have hab : a ≤ t + 1 := Int.ofNat_le.1 (hr ▸ Int.add_le_add_right hres 1)
  have hn : getNumChildren (getResolution (node a i)) t = fan a (t + 1) :=
    getNumChildren_node hab (Nat.succ_le_succ ht) hr rfl
  obtain ⟨L, h1, -, h3, h4⟩ := children_spec_node h hab (Nat.succ_le_succ ht) (ρ := t) rfl
  refine ⟨L, h1, ?_, h3.trans hn.symm, by simpa only [C06.covers_iff_parentIs] using h4⟩
  unfold blockOf
  rw [hn]
  -- the sizing rule says "one cell" exactly when the cell is at the target level already
  rcases Nat.eq_or_lt_of_le hab with rfl | hlt
  · rw [fan_self, if_pos rfl]
    exact (cellToChildren_self h rfl).symm.trans h1
  · rw [if_neg (Nat.ne_of_gt (one_lt_fan hlt (Nat.succ_le_succ ht)))]
    exact h1

theorem uncompact_valid (cells : List Nat) (t : Nat) (ht : t ≤ 29) (hv : ∀ c ∈ cells, ValidId c)
    (hres : ∀ c ∈ cells, getResolution c ≤ (t : Int)) :
    ∃ f : Nat → List Nat, uncompact cells t = .ok (cells.flatMap f) ∧ ∀ c ∈ cells,
      cellToChildren c (some (t : Int)) = .ok (f c) ∧ (f c).length = getNumChildren (getResolution c) t ∧
      ∀ x, x ∈ f c ↔ (ValidId x ∧ getResolution x = (t : Int) ∧ C06.ParentIs x (getResolution c) c) := by
  -- `f` has to be named before any call is known to succeed: the children list where there is one, `[]` elsewhere
  refine ⟨fun c => (cellToChildren c (some (t : Int))).toOption.getD [], ?_, fun c hc => ?_⟩
  · refine uncompact_ok t cells _ hres fun c hc => ?_
    obtain ⟨B, b1, b2, b3, -⟩ := block_of_valid c (hv c hc) t ht (hres c hc)
    rw [b1]
    exact ⟨b2, b3⟩
  · obtain ⟨B, b1, -, b3, b4⟩ := block_of_valid c (hv c hc) t ht (hres c hc)
    dsimp only
    rw [b1]
    exact ⟨rfl, b3, b4⟩

/-- C10: `uncompact(cells, t)` returns, for each input cell in order and with multiplicity, precisely
    `cell_to_children(cell, t)` (the cell itself if already at t); the length is the sum of `get_num_children`. -/
theorem uncompact_spec (cells : List Nat) (t : Nat) (ht : t ≤ 29) (hv : ∀ c ∈ cells, ValidId c)
    (hres : ∀ c ∈ cells, getResolution c ≤ (t : Int)) :
    ∃ blocks, List.Forall₂ (fun c B => cellToChildren c (some (t : Int)) = .ok B) cells blocks ∧
      uncompact cells t = .ok blocks.flatten ∧
      blocks.flatten.length = (cells.map fun c => getNumChildren (getResolution c) t).sum ∧
      List.Forall₂ (fun c B => ∀ x, x ∈ B ↔ (ValidId x ∧ getResolution x = (t : Int) ∧ C06.ParentIs x (getResolution c) c)) cells blocks := by
  obtain ⟨f, h1, hf⟩ := uncompact_valid cells t ht hv hres
  refine ⟨cells.map f, List.forall₂_map_right_iff.2 (List.forall₂_same.2 fun c hc => (hf c hc).1), List.flatMap_def ▸ h1, ?_,
    List.forall₂_map_right_iff.2 (List.forall₂_same.2 fun c hc => (hf c hc).2.2)⟩
  rw [List.length_flatten, List.map_map]
  exact congrArg List.sum (List.map_congr_left fun c hc => (hf c hc).2.1)

theorem uncompact_all_at_target (cells : List Nat) (t : Nat) (ht : t ≤ 29) (hv : ∀ c ∈ cells, ValidId c)
    (hres : ∀ c ∈ cells, getResolution c ≤ (t : Int)) (out : List Nat) (h : uncompact cells t = .ok out) :
    ∀ x ∈ out, ValidId x ∧ getResolution x = (t : Int) ∧ ∃ c ∈ cells, C06.ParentIs x (getResolution c) c := by
  obtain ⟨f, h1, hf⟩ := uncompact_valid cells t ht hv hres
  obtain rfl := Except.ok.inj (h1.symm.trans h)
  intro x hx
  obtain ⟨c, hc, hxc⟩ := List.mem_flatMap.1 hx
  have := ((hf c hc).2.2 x).1 hxc
  exact ⟨this.1, this.2.1, c, hc, this.2.2⟩

theorem uncompact_raises (cells : List Nat) (t : Int) (h : ∃ c ∈ cells, t < getResolution c) :
    uncompact cells t = .error .value := by
  unfold uncompact
  rw [uncompactResolutions_err t cells h]
  rfl

/-- the sizing rule and the filling rule agree: a wrong child count would be an IndexError, never a silent gap -/
theorem fill_overflow_is_error (pre cs : List Nat) (m : Nat) (h : m < cs.length) :
    writeBlock (pre ++ List.replicate m 0) pre.length cs = .error .index := by
  induction cs generalizing pre m with
  | nil => exact absurd h (Nat.not_lt_zero m)
  | cons c cs ih =>
    cases m with
    | zero => rw [writeBlock, if_neg (by rw [List.replicate_zero, List.append_nil]; exact Nat.lt_irrefl _)]
    | succ m => rw [writeBlock_step, ih _ _ (Nat.lt_of_succ_lt_succ h)]

/-! non-vacuity -/
example : ValidId (encId 7 2 3) ∧ getResolution (encId 7 2 3) ≤ ((4 : Nat) : Int) :=
  ⟨Or.inr ⟨7, 2, 3, by decide, rfl⟩, by rw [getResolution_encId (by decide)]; decide⟩

end A5.C10
