/-
  C01 — the cell returned for a point contains that point (partial).

  PROVED on the executable model of `lonlat_to_cell` (a full IEEE-double port, compared bit for bit with the implementation),
  for every pair of doubles and every resolution: resolution −1 gives the world cell; for 0..29 a returned id is a valid id of
  exactly that resolution (the estimator's index is in range for ANY floating-point input — `ij_to_s` range theorem, generic in
  the scalar type); the answer is the code of one of the sampled estimates, and it passes the library's own containment test for the
  query point unless no sampled candidate does (`contains_or_fallback`).
  ASSUMED (numeric, swept every run with an independent spherical point-in-polygon oracle): H-contain — the returned cell's
  published ring encloses the point up to tolerance; H-noraise — no float callee raises; H-periodic — 360° periodicity in longitude.
-/
import A5.Proofs.Lookup

namespace A5.C01
open A5 A5.CellGeo A5.F

/-- C01 (1): returns a cell of exactly the requested resolution; "IF it returns": the model raises only where a float callee raises
    (frame-vertex lookup, winding check) -/
theorem returns_requested_resolution (lon lat : Float) (r : Int) (hr0 : 0 ≤ r) (hr : r ≤ 29) (id : Nat)
    (h : lonlatToCell (lon, lat) r = .ok id) : ValidId id ∧ getResolution id = r := by
  by_cases h2 : r < 2
  · unfold lonlatToCell at h
    rw [if_neg (by omega), if_pos (by rw [FHR_eq]; exact h2)] at h
    obtain ⟨e, he, hs⟩ := bind_eq_ok h
    exact serialize_estimate (estimate_wf _ r e he) hr0 hr hs
  · have wf : ∀ {pts c}, Scored (lon, lat) r pts c → c.1.WF r := fun hc => hc.1.elim fun s hs => estimate_wf s r _ hs.2
    rcases lonlatToCell_spec (Int.not_lt.1 h2) h with ⟨c, hc, _, hs⟩ | ⟨cells, hc, b, hb, hs⟩
    · exact serialize_estimate (wf hc) hr0 hr hs
    · exact serialize_estimate (wf (hc b hb).1) hr0 hr hs

theorem world (lon lat : Float) : lonlatToCell (lon, lat) (-1) = .ok WORLD_CELL := by
  unfold lonlatToCell; rw [if_pos rfl]

/-- C01 (2): the lattice estimate is always an index of its level — for any input point and any scalar type -/
theorem estimator_index_in_range {α : Type} [Hilbert.Scalar α] (x y : α) (n : Nat) (o : String) :
    0 ≤ Hilbert.ijToS x y n o ∧ Hilbert.ijToS x y n o < (4 : Int) ^ n := Hilbert.ijToS_range x y n o

/-- C01 (3): every estimate is a well-formed cell (face < 12, segment in 0..4, position fitting the resolution) -/
theorem estimates_well_formed (lon lat : Float) (r : Int) (e : Est) (h : lonlatToEstimate (lon, lat) r = .ok e) : e.WF r :=
  estimate_wf (lon, lat) r e h

/-- the search inspects the point itself and 25 spiral offsets -/
theorem sample_count (lon lat : Float) (hres : Nat) : (samples (lon, lat) hres).length = 26 := by
  simp only [samples, List.length_cons, List.length_map, List.length_range]

/-- C01 (4), decision logic: at every Hilbert resolution (2..29) the returned id either is a cell that passes the library's own containment
    test `a5cell_contains_point(cell, point) > 0` for the QUERY POINT ITSELF, or — only when none of the 26 sampled candidates passes
    it — is one of those failing candidates (the nearest-miss fallback).  So the numeric content of C01 is exactly: the planar
    containment test agrees with the published ring, and some sampled candidate passes it. -/
theorem contains_or_fallback (lon lat : Float) (r : Int) (hr : 2 ≤ r) (id : Nat) (h : lonlatToCell (lon, lat) r = .ok id) :
    (∃ (e : Est) (d : Float), serialize e.toCell = .ok id ∧ cellContainsPoint e.toCell (lon, lat) = .ok d ∧ d > 0) ∨
    (∃ cells : List (Est × Float), (∀ c ∈ cells, cellContainsPoint c.1.toCell (lon, lat) = .ok c.2 ∧ ¬ c.2 > 0) ∧
        ∃ b ∈ cells, serialize b.1.toCell = .ok id) := by
  rcases lonlatToCell_spec hr h with ⟨c, hc, hpos, hs⟩ | ⟨cells, hc, hb⟩
  · exact Or.inl ⟨c.1, c.2, hs, hc.2, hpos⟩
  · exact Or.inr ⟨cells, fun c hcm => ⟨(hc c hcm).1.2, (hc c hcm).2⟩, hb⟩

/-- the full-strength containment statement kept visible (not proved: numeric) -/
def ContainmentStatement (contains : Nat → Float → Float → Prop) : Prop :=
  ∀ (lon lat : Float) (r : Int) (id : Nat), 0 ≤ r → r ≤ 29 → lonlatToCell (lon, lat) r = .ok id → contains id lon lat

end A5.C01
