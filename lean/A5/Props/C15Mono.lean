/-
  C15 — strict monotonicity over ℝ of both series with the implementation's own coefficients (regenerated as exact rationals
  from /repo on every run), and hence: each conversion is a bijection of [−π/2, π/2] onto itself.
  What remains an assumption is only the floating-point evaluation (rounding may break strictness between adjacent doubles).
-/
import A5.Proofs.AuthalicMono
import Mathlib.Topology.Order.IntermediateValue

namespace A5.C15
open Real Set

/-- C15 (monotone clause, real-number semantics): forward series with the code's coefficients is strictly increasing on all of ℝ -/
theorem forward_strictMono : StrictMono (applyR (coeffs Tables.GEODETIC_TO_AUTHALIC_RAT)) :=
  strictMono_of_small _ forward_small

theorem inverse_strictMono : StrictMono (applyR (coeffs Tables.AUTHALIC_TO_GEODETIC_RAT)) :=
  strictMono_of_small _ inverse_small

/-- the full-strength statement of Props/C15 holds for both tables -/
theorem forward_strictlyIncreasing : StrictlyIncreasing (coeffs Tables.GEODETIC_TO_AUTHALIC_RAT) :=
  fun _ _ _ hab _ => forward_strictMono hab

theorem inverse_strictlyIncreasing : StrictlyIncreasing (coeffs Tables.AUTHALIC_TO_GEODETIC_RAT) :=
  fun _ _ _ hab _ => inverse_strictMono hab

theorem applyR_continuous (C : Fin 6 → ℝ) : Continuous (applyR C) := by
  rw [funext (applyR_eq C)]
  unfold U clen
  fun_prop

theorem bijOn_of_strictMono (C : Fin 6 → ℝ) (h : StrictMono (applyR C)) :
    BijOn (applyR C) (Icc (-(π / 2)) (π / 2)) (Icc (-(π / 2)) (π / 2)) := by
  have hp := fixes_pole C
  refine ⟨?_, h.injective.injOn, ?_⟩
  · intro x hx
    constructor
    · rw [← hp.2]; exact h.monotone hx.1
    · rw [← hp.1]; exact h.monotone hx.2
  · have hle : -(π / 2) ≤ π / 2 := neg_le_self pi_div_two_pos.le
    have := intermediate_value_Icc hle (applyR_continuous C).continuousOn
    rwa [hp.1, hp.2] at this

theorem forward_bijOn : BijOn (applyR (coeffs Tables.GEODETIC_TO_AUTHALIC_RAT)) (Icc (-(π / 2)) (π / 2)) (Icc (-(π / 2)) (π / 2)) :=
  bijOn_of_strictMono _ forward_strictMono

theorem inverse_bijOn : BijOn (applyR (coeffs Tables.AUTHALIC_TO_GEODETIC_RAT)) (Icc (-(π / 2)) (π / 2)) (Icc (-(π / 2)) (π / 2)) :=
  bijOn_of_strictMono _ inverse_strictMono

/-- non-vacuity: six coefficients each -/
example : Tables.GEODETIC_TO_AUTHALIC_RAT.length = 6 ∧ Tables.AUTHALIC_TO_GEODETIC_RAT.length = 6 := by decide

end A5.C15
