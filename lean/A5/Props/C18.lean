/-
  C18 — curve index ↔ lattice position is a bijection for all orientations and levels.

  Proved here, for EVERY level n (not only 1..28), every index s < 4^n and each of the six orientations, in exact arithmetic
  (ℚ, which contains every IEEE double): converting an index to its lattice anchor and converting ANY point strictly inside that
  anchor's unit triangle back yields the index; the cells are pairwise distinct, lie inside the segment triangle, have disjoint interiors and
  COVER the closed segment triangle (`fill`).  That the pentagon centre of each of the 16 (flips, k) shapes lies strictly inside its
  unit triangle is `Planar.shape_margin` (used in `C02.centre_roundtrip`).  Named gap (tied by the check, not proved): IEEE rounding
  inside `ij_to_s`.
-/
import A5.Proofs.HilbertFill
import A5.Proofs.HilbertOrient

namespace A5.C18
open A5 A5.Hilbert

def Orientations : List String := ["uv", "vu", "uw", "wu", "vw", "wv"]

/-- C18 (1): index → anchor → any point of the anchor's unit triangle → index. -/
theorem roundtrip (o : String) (ho : o ∈ Orientations) (n s : Nat) (hs : s < 4 ^ n) (a : Anchor)
    (ha : sToAnchor s n o = .ok a) (u v : ℚ) (hδ : Tri a.flips 1 u v) :
    ijToS ((a.i : ℚ) + u) ((a.j : ℚ) + v) n o = (s : Int) := by
  rw [← add_sub_cancel_left (a.i : ℚ) u, ← add_sub_cancel_left (a.j : ℚ) v, (anchor_cell o n s hs a ha _ _).1] at hδ
  rw [ijToS_eq, roundtrip_core n _ (revIdx_lt _ n s hs) _ _ _ _ hδ, revIdx_revIdx _ n s hs]

theorem anchor_total (o : String) (n s : Nat) : ∃ a, sToAnchor s n o = .ok a :=
  ⟨_, rfl⟩

theorem tri_nonempty (f : Flips) : ∃ u v : ℚ, Tri f 1 u v := by
  obtain ⟨fx, fy⟩ := f
  cases fx <;> cases fy
  · exact ⟨1/3, 1/3, by simp only [Tri]; norm_num⟩
  · exact ⟨-1/3, 2/3, by simp only [Tri]; norm_num⟩
  · exact ⟨1/3, -2/3, by simp only [Tri]; norm_num⟩
  · exact ⟨-1/3, -1/3, by simp only [Tri]; norm_num⟩

/-- C18 (2): the 4^n indices of a level produce pairwise distinct lattice cells (offset and shape). -/
theorem anchor_injective (o : String) (ho : o ∈ Orientations) (n s₁ s₂ : Nat) (h₁ : s₁ < 4 ^ n) (h₂ : s₂ < 4 ^ n)
    (a₁ a₂ : Anchor) (e₁ : sToAnchor s₁ n o = .ok a₁) (e₂ : sToAnchor s₂ n o = .ok a₂)
    (hi : a₁.i = a₂.i) (hj : a₁.j = a₂.j) (hf : a₁.flips = a₂.flips) : s₁ = s₂ := by
  obtain ⟨u, v, hδ⟩ := tri_nonempty a₁.flips
  have r₁ := roundtrip o ho n s₁ h₁ a₁ e₁ u v hδ
  have r₂ := roundtrip o ho n s₂ h₂ a₂ e₂ u v (hf ▸ hδ)
  rw [hi, hj] at r₁
  rw [r₁] at r₂
  exact_mod_cast r₂

/-- C18 (3, containment half of "exactly fill"): every cell of the level lies inside the segment's side-2^n triangle
    (core orientation; the other orientations are affine images — `anchor_cell`, `unwrapPt_seg`). -/
theorem inside_segment (n s : Nat) (hs : s < 4 ^ n) (inv flipIJ : Bool) (u v : ℚ)
    (hδ : Tri (sToAnchorCore s n inv flipIJ).flips 1 u v) :
    Tri (false, false) (2 ^ n) (((sToAnchorCore s n inv flipIJ).i : ℚ) + u) (((sToAnchorCore s n inv flipIJ).j : ℚ) + v) := by
  obtain ⟨hslt, hslen⟩ := shiftAll_digits_spec (if flipIJ then PATTERN_FLIPPED else PATTERN) inv hs
  rw [← add_sub_cancel_left ((sToAnchorCore s n inv flipIJ).i : ℚ) u, ← add_sub_cancel_left ((sToAnchorCore s n inv flipIJ).j : ℚ) v] at hδ
  have := cell_inside _ hslt (false, false) _ _ hδ
  rwa [hslen] at this

/-- C18 (3, containment for every orientation) -/
theorem inside_segment_all (o : String) (ho : o ∈ Orientations) (n s : Nat) (hs : s < 4 ^ n) (a : Anchor)
    (ha : sToAnchor s n o = .ok a) (u v : ℚ) (hδ : Tri a.flips 1 u v) :
    Tri (false, false) (2 ^ n) ((a.i : ℚ) + u) ((a.j : ℚ) + v) := by
  rw [← add_sub_cancel_left (a.i : ℚ) u, ← add_sub_cancel_left (a.j : ℚ) v, (anchor_cell o n s hs a ha _ _).1] at hδ
  have := inside_segment n _ (revIdx_lt _ n s hs) _ _ _ _ hδ
  rw [add_sub_cancel, add_sub_cancel] at this
  exact (unwrapPt_seg _ _ n _ _).1.1 this

/-- C18 (3, covering half of "exactly fill"): for every level, every orientation and EVERY point of the closed segment triangle of
    side 2^n (boundary points included), the index `ij_to_s` computes is in range and the point lies in the closed unit triangle of
    that index's lattice cell.  With `inside_segment` and `interiors_disjoint` the 4^n cells tile the triangle exactly. -/
theorem fill (o : String) (ho : o ∈ Orientations) (n : Nat) (x y : ℚ) (h : TriC (false, false) (2 ^ n) x y) :
    ∃ s : Nat, s < 4 ^ n ∧ ijToS x y n o = (s : Int) ∧
      ∃ a : Anchor, sToAnchor s n o = .ok a ∧ TriC a.flips 1 (x - (a.i : ℚ)) (y - (a.j : ℚ)) := by
  have hc := fill_core n (orientInvertJ o) (orientFlipIJ o) _ _ ((unwrapPt_seg (orientInvertJ o) (orientFlipIJ o) n x y).2.2 h)
  have hlt := ijToSCore_lt (unwrapPt (orientInvertJ o) (orientFlipIJ o) n (x, y)).1 (unwrapPt (orientInvertJ o) (orientFlipIJ o) n (x, y)).2
    (orientInvertJ o) (orientFlipIJ o) n
  have hr := revIdx_lt (orientReverse o) n _ hlt
  refine ⟨_, hr, ijToS_eq x y n o, _, sToAnchor_eq _ n o hr, ?_⟩
  rw [(anchor_cell o n _ hr _ (sToAnchor_eq _ n o hr) x y).2, revIdx_revIdx _ n _ hlt]
  exact hc

/-- C18 (3, no overlap): a point strictly inside the unit triangles of the cells of two indices forces the indices to be equal -/
theorem interiors_disjoint (o : String) (ho : o ∈ Orientations) (n s₁ s₂ : Nat) (h₁ : s₁ < 4 ^ n) (h₂ : s₂ < 4 ^ n)
    (a₁ a₂ : Anchor) (e₁ : sToAnchor s₁ n o = .ok a₁) (e₂ : sToAnchor s₂ n o = .ok a₂) (x y : ℚ)
    (p₁ : Tri a₁.flips 1 (x - (a₁.i : ℚ)) (y - (a₁.j : ℚ))) (p₂ : Tri a₂.flips 1 (x - (a₂.i : ℚ)) (y - (a₂.j : ℚ))) : s₁ = s₂ := by
  have r₁ := roundtrip o ho n s₁ h₁ a₁ e₁ _ _ p₁
  have r₂ := roundtrip o ho n s₂ h₂ a₂ e₂ _ _ p₂
  rw [add_sub_cancel, add_sub_cancel] at r₁ r₂
  rw [r₁] at r₂
  exact_mod_cast r₂

theorem transducer_invertible' (flipIJ inv : Bool) (ds : List Nat) (h : ∀ d ∈ ds, d < 4) :
    shiftAll (if flipIJ then PATTERN_FLIPPED else PATTERN) inv
      (unshiftAll (reversePattern (if flipIJ then PATTERN_FLIPPED else PATTERN)) inv ds) = ds := shift_unshift (step_inv flipIJ inv).2 ds h

theorem transducer_invertible (flipIJ inv : Bool) (ds : List Nat) (h : ∀ d ∈ ds, d < 4) :
    unshiftAll (reversePattern (if flipIJ then PATTERN_FLIPPED else PATTERN)) inv
      (shiftAll (if flipIJ then PATTERN_FLIPPED else PATTERN) inv ds) = ds := unshift_shift (step_inv flipIJ inv).1 ds h

/-- finite helpers equal the tables produced by calling the real functions on their whole domains -/
theorem tables_agree :
    modelShiftTable = Tables.SHIFT_TABLE ∧ reversePattern PATTERN = Tables.PATTERN_REVERSED ∧
    reversePattern PATTERN_FLIPPED = Tables.PATTERN_FLIPPED_REVERSED ∧ Tables.FLIP_SHIFT = (-1, 1) :=
  ⟨shift_table_eq, pattern_reversed_eq, pattern_flipped_reversed_eq, flip_shift_eq⟩

/-! non-vacuity -/
example : ∃ a, sToAnchor 27 3 "vw" = .ok a ∧ ∃ u v : ℚ, Tri a.flips 1 u v := by
  obtain ⟨a, ha⟩ := anchor_total "vw" 3 27
  exact ⟨a, ha, tri_nonempty a.flips⟩

example : TriC (false, false) (2 ^ 3) (7/3 : ℚ) (5/2) := by simp only [TriC]; norm_num

end A5.C18
