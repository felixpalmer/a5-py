/-
  C17 — every API call is a pure function of its arguments.

  Proved: over every finite history of disciplined calls starting from the cold store, each call returns its denotation
  (the value a fresh interpreter returns); the projection caches' slot indices are injective on their key domains except for
  the one intended alias, which stores the same value (tables observed on fresh instances each run, re-decided by the kernel).
  Tied, not proved: membership of the code in the disciplined class; no writes to argument objects; no returned object
  reachable from shared state (runtime proxies and identity scan).
-/
import A5.Proofs.EffectsProof
import A5.Gen.Tables

namespace A5.C17
open A5.Effects

variable {Slot Val Reg : Type} [DecidableEq Slot] [DecidableEq Reg]

theorem history_independent (f : Slot → Val) {α : Type} (calls : List (Prog Slot Val Reg α × α))
    (hd : ∀ c ∈ calls, Disc f c.1 c.2) (σ : Store Slot Val Reg) (results : List α) (σ' : Store Slot Val Reg)
    (hcold : Inv f σ) (hrun : RunsSeq f (calls.map Prod.fst) σ results σ') :
    results = calls.map Prod.snd ∧ Inv f σ' :=
  A5.Effects.history_independent f calls hd σ results σ' hcold hrun

theorem cold_store_ok (f : Slot → Val) (c : Nat) (g : Reg → Val) :
    Inv f ({ memo := fun _ => none, counter := c, reg := g } : Store Slot Val Reg) := fun _ _ h => nomatch h

/-! cache keys: the slot index arithmetic of `get_face_triangle` / `get_spherical_triangle` -/

/-- An index from which the key can be computed back is injective on keys; that a decoder does so is checked in one pass over the
    observed table instead of over all pairs of rows. -/
theorem key_eq_of_decode {α κ σ : Type} {T : List α} {slot : α → σ} {key : α → κ} (dec : σ → κ)
    (h : ∀ a ∈ T, dec (slot a) = key a) : ∀ a ∈ T, ∀ b ∈ T, slot a = slot b → key a = key b :=
  fun a ha b hb e => by rw [← h a ha, ← h b hb, e]

theorem face_slots_consistent :
    ∀ a ∈ A5.Tables.FACE_SLOT_TABLE, ∀ b ∈ A5.Tables.FACE_SLOT_TABLE, a.slot = b.slot → a.value = b.value := by
  decide +kernel

/-- `index = fti; if reflected: index += 20 if squashed else 10` backwards: tens digit 0 plain (whatever `squashed`), 1 reflected,
    2 reflected and squashed -/
def faceKey (s : Nat) : Nat × Nat × Nat := (s % 10, min (s / 10) 1, s / 10 - 1)

theorem face_slots_decode : ∀ a ∈ A5.Tables.FACE_SLOT_TABLE,
    faceKey a.slot = (a.fti, a.reflected, if a.reflected = 1 then a.squashed else 0) := by
  decide +kernel

/-- injective apart from the intended alias (squashed without reflected = the plain triangle) -/
theorem face_slots_injective :
    ∀ a ∈ A5.Tables.FACE_SLOT_TABLE, ∀ b ∈ A5.Tables.FACE_SLOT_TABLE, a.slot = b.slot →
      a.fti = b.fti ∧ a.reflected = b.reflected ∧ (a.reflected = 1 → a.squashed = b.squashed) := by
  intro a ha b hb h
  have key := key_eq_of_decode faceKey face_slots_decode a ha b hb h
  simp only [Prod.mk.injEq] at key
  obtain ⟨hf, hr, hs⟩ := key
  refine ⟨hf, hr, fun h1 => ?_⟩
  rwa [if_pos h1, if_pos (hr ▸ h1)] at hs

/-- the digits of `index = 10 * origin + fti`, `+ 120` if reflected -/
def sphKey (s : Nat) : Nat × Nat × Nat := (s % 10, s % 120 / 10, s / 120)

theorem sph_slots_decode : ∀ a ∈ A5.Tables.SPH_SLOT_TABLE, sphKey a.slot = (a.fti, a.origin, a.reflected) := by
  decide +kernel

theorem sph_slots_injective :
    ∀ a ∈ A5.Tables.SPH_SLOT_TABLE, ∀ b ∈ A5.Tables.SPH_SLOT_TABLE, a.slot = b.slot →
      a.fti = b.fti ∧ a.origin = b.origin ∧ a.reflected = b.reflected := by
  intro a ha b hb h
  simpa only [Prod.mk.injEq] using key_eq_of_decode sphKey sph_slots_decode a ha b hb h

theorem slot_tables_complete : A5.Tables.FACE_SLOT_TABLE.length = 40 ∧ A5.Tables.SPH_SLOT_TABLE.length = 240 := by decide +kernel

/-! non-vacuity -/
example : RunsSeq (Reg := Unit) (fun s : Nat => s) [Prog.ret (Slot := Nat) (Val := Nat) 3, Prog.ret 4]
    { memo := fun _ => none, counter := 0, reg := fun _ => 0 } [3, 4] { memo := fun _ => none, counter := 0, reg := fun _ => 0 } :=
  RunsSeq.cons _ _ _ _ _ _ _ (Runs.ret 3 _) (RunsSeq.cons _ _ _ _ _ _ _ (Runs.ret 4 _) (RunsSeq.nil _))

end A5.C17
