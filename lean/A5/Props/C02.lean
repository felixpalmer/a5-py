/-
  C02 — a cell's centre maps back to the same cell (partial).

  PROVED: the world cell's centre is (0, 0); in exact arithmetic the repaired wrap sends every longitude of the form θ − 93°
  (θ ∈ (−180°, 180°], i.e. (−273°, 87°]) into [−180°, 180°] by a whole turn and leaves in-range values untouched;
  the centre is obtained by `cell_to_lonlat`'s model, a full IEEE-double port compared bit for bit with the implementation.
  Conditional (C18): the curve index of the centre's lattice point is the cell's own index whenever the centre lies strictly
  inside its unit triangle.  ASSUMED (numeric, swept): H-roundtrip `lonlat_to_cell(cell_to_lonlat(c)) = c`; H-inside centre
  strictly inside the ring; H-range in floating point.
-/
import A5.Props.C01
import A5.Props.C18

namespace A5.C02
open A5 A5.CellGeo A5.F

theorem world_centre : cellToLonLat WORLD_CELL = .ok (0.0, 0.0) := by
  unfold cellToLonLat; rw [if_pos rfl]

/-- the longitude wrap of `cell_to_lonlat`, in exact arithmetic -/
def wrap (lon : ℚ) : ℚ := if lon < -180 then lon + 360 else if lon > 180 then lon - 360 else lon

/-- C02 (1): every longitude the unwrapped formula can produce — and in fact every value in [−540, 540] — lands in [−180, 180],
    differs from the input by a whole number of turns, and is untouched when already in range -/
theorem wrap_range (lon : ℚ) (h : -540 ≤ lon ∧ lon ≤ 540) :
    -180 ≤ wrap lon ∧ wrap lon ≤ 180 ∧ (wrap lon = lon ∨ wrap lon = lon + 360 ∨ wrap lon = lon - 360) ∧
      (-180 ≤ lon ∧ lon ≤ 180 → wrap lon = lon) := by
  unfold wrap
  obtain ⟨h1, h2⟩ := h
  split_ifs with hlt hgt
  · exact ⟨by linarith, by linarith, Or.inr (Or.inl rfl), fun hh => absurd hlt (not_lt.2 hh.1)⟩
  · exact ⟨by linarith, by linarith, Or.inr (Or.inr rfl), fun hh => absurd hgt (not_lt.2 hh.2)⟩
  · exact ⟨not_lt.1 hlt, not_lt.1 hgt, Or.inl rfl, fun _ => rfl⟩

/-- C02 (2), conditional on the centre lying in its unit triangle: the lattice round trip of C18 -/
theorem lattice_roundtrip (o : String) (ho : o ∈ C18.Orientations) (n s : Nat) (hs : s < 4 ^ n) (a : Hilbert.Anchor)
    (ha : Hilbert.sToAnchor s n o = .ok a) (u v : ℚ) (hδ : Hilbert.Tri a.flips 1 u v) :
    Hilbert.ijToS ((a.i : ℚ) + u) ((a.j : ℚ) + v) n o = (s : Int) := C18.roundtrip o ho n s hs a ha u v hδ

theorem roundtrip_resolution (c : Nat) (p : V2) (r : Int) (hr0 : 0 ≤ r) (hr : r ≤ 29) (id : Nat)
    (_ : cellToLonLat c = .ok p) (h : lonlatToCell p r = .ok id) : ValidId id ∧ getResolution id = r :=
  C01.returns_requested_resolution p.1 p.2 r hr0 hr id h

example : wrap (-220) = 140 := by norm_num [wrap]

end A5.C02
