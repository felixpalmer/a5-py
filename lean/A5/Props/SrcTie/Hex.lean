/-
  Source-level tie for the hex text form (C19): `hex_to_u64` / `u64_to_hex` as translated from the current
  `a5/core/hex.py` = the model; the property theorems restated about the translated source.
  (The two CPython builtins `hex` and `int(·, 16)` themselves stay modelled — `A5/Model/Hex.lean` — and are tied by correspondence.)
-/
import A5.Gen.Src
import A5.Props.C19

namespace A5.SrcTie
open A5

theorem tie_hex_to_u64 (s : String) : Src.hex.hex_to_u64 s = hexToU64 s := by
  unfold Src.hex.hex_to_u64 Py.intOfStr
  rw [if_pos rfl]

theorem tie_u64_to_hex (v : Int) : Src.hex.u64_to_hex v = .ok (u64ToHex v) := by
  unfold Src.hex.u64_to_hex Py.strFrom Py.hex u64ToHex
  split
  all_goals
    -- not `rw`: an intermediate local in the source leaves a `let` around the term, which `simp only` sees through
    simp only [String.toList_ofList]
    rfl

/-- C19 (1) about the translated source -/
theorem roundtrip_of_source (n : Nat) :
    (Src.hex.u64_to_hex (n : Int) >>= fun s => Src.hex.hex_to_u64 s) = .ok (n : Int) := by
  -- unfold the bind by rewriting: letting the unifier match `ok s >>= f` against `hex_to_u64 _` unfolds the parser
  simp only [tie_u64_to_hex, tie_hex_to_u64, bind, Except.bind]
  exact C19.roundtrip n

/-- C19 (3) about the translated source -/
theorem injective_of_source (m n : Nat) (h : Src.hex.u64_to_hex (m : Int) = Src.hex.u64_to_hex (n : Int)) : m = n := by
  rw [tie_u64_to_hex, tie_u64_to_hex] at h
  exact C19.injective m n (by injection h)

end A5.SrcTie
