/-
  Source-level tie for `uncompact` (C10): the translated two-pass implementation (sizes from `get_num_children`,
  pre-allocated list written by index) = the model, for every list of ids and every target.
-/
import A5.Proofs.SrcBridgeUncompact
import A5.Props.SrcTie.Tree
import A5.Props.C10

namespace A5.SrcTie
open A5 A5.Bridge

theorem tie_uncompact (cells : List Nat) (t : Int) :
    Src.compact.uncompact (cells.map Int.ofNat) t = (uncompact cells t).map (List.map Int.ofNat) := uncompact_eq cells t

/-- C10 (raise clause) about the translated source -/
theorem uncompact_raises_of_source (cells : List Nat) (t : Int) (h : ∃ c ∈ cells, t < getResolution c) :
    Src.compact.uncompact (cells.map Int.ofNat) t = .error .value := by
  rw [tie_uncompact, C10.uncompact_raises cells t h]; rfl

/-- C10 about the translated source -/
theorem uncompact_spec_of_source (cells : List Nat) (t : Nat) (ht : t ≤ 29) (hv : ∀ c ∈ cells, ValidId c)
    (hres : ∀ c ∈ cells, getResolution c ≤ (t : Int)) :
    ∃ blocks : List (List Nat),
      List.Forall₂ (fun (c : Nat) (B : List Nat) => Src.serialization.cell_to_children ((c : Nat) : Int) (some (t : Int)) = .ok (B.map Int.ofNat)) cells blocks ∧
      Src.compact.uncompact (cells.map Int.ofNat) t = .ok (blocks.flatten.map Int.ofNat) ∧
      blocks.flatten.length = (cells.map fun c => getNumChildren (getResolution c) t).sum := by
  obtain ⟨blocks, h1, h2, h3, _⟩ := C10.uncompact_spec cells t ht hv hres
  refine ⟨blocks, ?_, ?_, h3⟩
  · refine h1.imp fun c B hcB => ?_
    rw [tie_cell_to_children, hcB]; rfl
  · rw [tie_uncompact, h2]; rfl

end A5.SrcTie
