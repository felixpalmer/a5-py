/-
  Source-level tie for the id codec (C05): the Lean definitions regenerated from `a5/core/serialization.py` and
  `a5/core/cell_info.py` on every run (`A5/Gen/Src.lean`) are the model the property theorems are about —
  for *every* id and every cell record naming one of the twelve origins, not for a sample.  Consequences are restated
  directly about the translated source.
-/
import A5.Proofs.SrcBridge
import A5.Props.C05

namespace A5.SrcTie
open A5 A5.Bridge

theorem tie_get_resolution (index : Nat) :
    Src.serialization.get_resolution (index : Int) = .ok (getResolution index) := get_resolution_eq index

theorem tie_deserialize (index : Nat) :
    Src.serialization.deserialize (index : Int) = (deserialize index).map cellOf := deserialize_eq index

theorem tie_serialize (c : Cell) (ho : c.origin < 12) :
    Src.serialization.serialize (cellOf c) = (serialize c).map Int.ofNat := serialize_eq c ho

theorem tie_get_num_cells (r : Int) : Src.cell_info.get_num_cells r = .ok ((getNumCells r : Nat) : Int) := get_num_cells_eq r

/-- C05 (1) about the translated source -/
theorem roundtrip_of_source (c : Cell) (h : C05.ValidUpTo 29 c) :
    ∃ n : Nat, Src.serialization.serialize (cellOf c) = .ok (n : Int) ∧ 1 ≤ n ∧ n < 2 ^ 64 ∧
      Src.serialization.get_resolution (n : Int) = .ok c.res ∧
      Src.serialization.deserialize (n : Int) = .ok (cellOf c.canon) := by
  obtain ⟨n, hs, h1, h2, hr, hd⟩ := C05.roundtrip_partial c h
  refine ⟨n, ?_, h1, h2, ?_, ?_⟩
  · rw [tie_serialize c h.1, hs]
    rfl
  · rw [tie_get_resolution, hr]
  · rw [tie_deserialize, hd]
    rfl

/-- C05 (1') about the translated source -/
theorem res30_of_source (o : Nat) (ho : o < 12) (sg S : Int) :
    Src.serialization.serialize { origin := (o : Int), segment := sg, S := S, resolution := Src.serialization.MAX_RESOLUTION }
      = .error .value := by
  have := tie_serialize { origin := o, segment := sg, S := S, res := MAXR } ho
  rw [C05.res30_unencodable] at this
  obtain ⟨-, hmax, -⟩ := consts
  rw [hmax]
  exact this

/-- C05 (5) about the translated source -/
theorem rejects_unfit_of_source (c : Cell) (ho : c.origin < 12) (n : Int)
    (h : Src.serialization.serialize (cellOf c) = .ok n) (hw : c.res ≠ -1) :
    0 ≤ c.S ∧ (c.res < 2 → c.S = 0) ∧ (2 ≤ c.res → c.S < 4 ^ (c.res - 1).toNat) := by
  rw [tie_serialize c ho] at h
  cases hs : serialize c with
  | error e =>
    rw [hs] at h
    cases h
  | ok m => exact C05.rejects_unfit_position c m hs hw

example : C05.ValidUpTo 29 { origin := 7, segment := 3, S := 123456789, res := 17 } :=
  ⟨by decide, by decide, by decide, by decide, by decide⟩

end A5.SrcTie
