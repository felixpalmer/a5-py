/-
  Source-level tie for the hierarchy functions (C06, C20): `cell_to_children`, `cell_to_parent`, `get_res0_cells`,
  `get_num_children`, `is_first_child`, `get_stride` as translated from the current source = the model.
-/
import A5.Proofs.SrcBridgeLoops
import A5.Props.SrcTie.Codec
import A5.Props.C06

namespace A5.SrcTie
open A5 A5.Bridge

theorem tie_cell_to_children (index : Nat) (cr : Option Int) :
    Src.serialization.cell_to_children (index : Int) cr = (cellToChildren index cr).map (List.map Int.ofNat) :=
  cell_to_children_eq index cr

theorem tie_cell_to_parent (index : Nat) (pr : Option Int) :
    Src.serialization.cell_to_parent (index : Int) pr = (cellToParent index pr).map Int.ofNat := cell_to_parent_eq index pr

theorem tie_get_res0_cells : Src.serialization.get_res0_cells = getRes0Cells.map (List.map Int.ofNat) :=
  cell_to_children_eq A5.WORLD_CELL (some 0)

theorem tie_get_num_children (p c : Int) :
    Src.cell_info.get_num_children p c = .ok ((getNumChildren p c : Nat) : Int) := get_num_children_eq p c

theorem tie_is_first_child (index : Nat) (res : Option Int) :
    Src.serialization.is_first_child (index : Int) res = isFirstChild index res := is_first_child_eq index res

theorem tie_get_stride (r : Int) : Src.serialization.get_stride r = (getStride r).map Int.ofNat := get_stride_eq r

/-- C06 (1) about the translated source -/
theorem children_spec_of_source {t S r : Nat} (h : WF t S r) (b : Nat) (hrb : r ≤ b) (hb : b ≤ 29) :
    ∃ L : List Nat, Src.serialization.cell_to_children (encId t S r : Nat) (some (b : Int)) = .ok (L.map Int.ofNat) ∧ L.Nodup ∧
      Src.cell_info.get_num_children r b = .ok (L.length : Int) ∧
      ∀ x : Nat, x ∈ L ↔ (ValidId x ∧ Src.serialization.get_resolution (x : Int) = .ok (b : Int) ∧
        Src.serialization.cell_to_parent (x : Int) (some (r : Int)) = .ok ((encId t S r : Nat) : Int)) := by
  obtain ⟨L, h1, h2, h3, h4⟩ := C06.children_spec h b hrb hb
  refine ⟨L, ?_, h2, ?_, ?_⟩
  · rw [tie_cell_to_children, h1]
    rfl
  · rw [tie_get_num_children, h3]
  · intro x
    rw [h4 x, tie_get_resolution, tie_cell_to_parent, map_cast_eq_ok, Except.ok.injEq]
    rfl

example : WF 7 2 3 := by decide

end A5.SrcTie
