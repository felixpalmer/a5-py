/-
  Source-level tie for `compact` (C08, C09): the translated implementation — `sorted(set(cells), key=_hierarchical_key)`,
  the `while changed` loop, the index-based scan with `continue`/`break` — = the model, for every list of ids.
-/
import A5.Proofs.SrcBridgeCompact
import A5.Props.SrcTie.Tree
import A5.Props.C08
import A5.Props.C09

namespace A5.SrcTie
open A5 A5.Bridge

theorem tie_hierarchical_key (cell : Nat) :
    Src.compact._hierarchical_key (cell : Int) = .ok ((hierarchicalKey cell : Nat) : Int) := hierarchical_key_eq cell

theorem tie_compact (cells : List Nat) :
    Src.compact.compact (cells.map Int.ofNat) = (compact cells).map (List.map Int.ofNat) := compact_eq cells

/-- neither loop of the translated `compact` runs out of its fuel on valid ids (a fuel exhaustion would be `Err.other`) -/
theorem compact_total_of_source (X : List Nat) (hX : ∀ c, c ∈ X → ValidId c) :
    ∃ Y : List Nat, Src.compact.compact (X.map Int.ofNat) = .ok (Y.map Int.ofNat) := by
  obtain ⟨Y, h⟩ := C08.compact_total X hX
  exact ⟨Y, by rw [tie_compact, h]; rfl⟩

/-- C08 about the translated source -/
theorem coverage_preserved_of_source (X : List Nat) (R : Nat)
    (hX : ∀ c, c ∈ X → ValidId c ∧ getResolution c ≤ (R : Int)) :
    ∃ Y : List Nat, Src.compact.compact (X.map Int.ofNat) = .ok (Y.map Int.ofNat) ∧
      (∀ c, c ∈ Y → ValidId c ∧ getResolution c ≤ (R : Int)) ∧
      ∀ x, ValidId x → getResolution x = (R : Int) →
        ((∃ y, y ∈ Y ∧ Covers y x) ↔ (∃ z, z ∈ X ∧ Covers z x)) := by
  obtain ⟨Y, h1, h2, h3⟩ := C08.coverage_preserved X R hX
  exact ⟨Y, by rw [tie_compact, h1]; rfl, h2, h3⟩

/-- C09 (1)–(3) about the translated source -/
theorem minimal_of_source (X : List Nat) (hX : C09.AntichainInput X) :
    ∃ Y : List Nat, Src.compact.compact (X.map Int.ofNat) = .ok (Y.map Int.ofNat) ∧ (∀ c, c ∈ Y → ValidId c) ∧ Y.Nodup ∧
      Antichain Y ∧ Reduced Y ∧ (∀ x, IsLeaf x → (CoveredBy Y x ↔ CoveredBy X x)) := by
  obtain ⟨Y, h1, h2⟩ := C09.minimal X hX
  exact ⟨Y, by rw [tie_compact, h1]; rfl, h2⟩

end A5.SrcTie
