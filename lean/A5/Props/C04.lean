/-
  C04 — all cells of a resolution have equal area (partial).

  PROVED (exact arithmetic, about `Planar.place` — the function the executable model runs for `get_pentagon_vertices`): the planar
  shoelace area of every cell's polygon is the base pentagon's area divided by 4^level, for every anchor (offset, flips, k), i.e.
  independent of where the cell lies; the base pentagon, the lattice triangle and |det BASIS| have the same area (kernel-evaluated
  IEEE arithmetic on the extracted constants: bit-identical); there are get_num_cells(r) cells (C20).
  ASSUMED (C14, numeric): the face projection multiplies planar area by one global constant; edges resolved by `segments`.
-/
import A5.Proofs.Congruence
import A5.Model.CellGeo

namespace A5.C04
open A5 A5.Planar

/-- C04 (planar): the shoelace area of every placed pentagon is the base pentagon's area divided by 4^level, for every anchor (offset,
    flips, k), every basis and shift vectors and every matrix of determinant 1 as quintant rotation -/
theorem planar_area_value (base : List (ℚ × ℚ)) (hb : base.length = 5) (basis : ℚ × ℚ × ℚ × ℚ) (sl sr : ℚ × ℚ) (rot : ℚ × ℚ × ℚ × ℚ)
    (hdet : rot.1 * rot.2.2.2 - rot.2.1 * rot.2.2.1 = 1) (h : Nat) (a : Hilbert.Anchor) :
    area (place base basis sl sr rot h a) = area (mkShape base) / 4 ^ h := by
  have h5 : (mkShape base).length = 5 := by rw [mkShape_length, hb]
  rw [place_image, area_map (placeMap_aff ..) _ (by split <;> simpa using h5), area_reverse_if _ _ h5, hdet, one_mul]
  -- `1 / 4 ^ h * sgn m * (sgn m * area _)` with m = `mirrored`: one sign from the determinant, one from reading backwards; they cancel
  rw [mul_assoc, ← mul_assoc (sgn _), sgn_mul_self]
  ring

theorem planar_area_uniform (base : List (ℚ × ℚ)) (hb : base.length = 5) (basis : ℚ × ℚ × ℚ × ℚ) (sl sr : ℚ × ℚ) (rot : ℚ × ℚ × ℚ × ℚ)
    (hdet : rot.1 * rot.2.2.2 - rot.2.1 * rot.2.2.1 = 1) (h : Nat) (a₁ a₂ : Hilbert.Anchor) :
    area (place base basis sl sr rot h a₁) = area (place base basis sl sr rot h a₂) := by
  rw [planar_area_value base hb basis sl sr rot hdet h a₁, planar_area_value base hb basis sl sr rot hdet h a₂]

/-- one pentagon per lattice triangle -/
theorem base_areas_agree :
    (CellGeo.shapeArea CellGeo.pentagonBase == CellGeo.shapeArea CellGeo.triangleBase) = true ∧
    (CellGeo.shapeArea CellGeo.pentagonBase ==
      Float.abs (Geo.BS 0 * Geo.BS 3 - Geo.BS 1 * Geo.BS 2)) = true := by
  decide +kernel

theorem quarter_per_level (base : List (ℚ × ℚ)) (hb : base.length = 5) (basis : ℚ × ℚ × ℚ × ℚ) (sl sr : ℚ × ℚ) (rot : ℚ × ℚ × ℚ × ℚ)
    (hdet : rot.1 * rot.2.2.2 - rot.2.1 * rot.2.2.1 = 1) (h : Nat) (a b : Hilbert.Anchor) :
    4 * area (place base basis sl sr rot (h + 1) b) = area (place base basis sl sr rot h a) := by
  rw [planar_area_value base hb basis sl sr rot hdet (h + 1) b, planar_area_value base hb basis sl sr rot hdet h a]
  ring

/-! non-vacuity: the identity matrix meets `hdet` -/
example : (1:ℚ) * 1 - 0 * 0 = 1 := by norm_num

end A5.C04
