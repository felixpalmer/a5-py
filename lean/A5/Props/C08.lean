/-
  C08 — compact never changes the covered region.
  For ANY finite list of valid ids: mixed resolutions −1..29, duplicates, any order, ancestors together with descendants.
-/
import A5.Proofs.CompactProof
import A5.Props.C10

namespace A5.C08
open A5

/-- C08: `compact` is total on valid input, returns valid ids no finer than the input, and a cell of resolution `R`
    (any R ≥ every input resolution, in particular R = 29) is covered by the output iff it is covered by the input. -/
theorem coverage_preserved (X : List Nat) (R : Nat)
    (hX : ∀ c, c ∈ X → ValidId c ∧ getResolution c ≤ (R : Int)) :
    ∃ Y, compact X = .ok Y ∧ (∀ c, c ∈ Y → ValidId c ∧ getResolution c ≤ (R : Int)) ∧
      ∀ x, ValidId x → getResolution x = (R : Int) →
        ((∃ y, y ∈ Y ∧ Covers y x) ↔ (∃ z, z ∈ X ∧ Covers z x)) :=
  compact_covered R X hX

/-- the `while changed` loop never runs out of its fuel (the model reports that as an error, and the result is `ok`) -/
theorem compact_total (X : List Nat) (hX : ∀ c, c ∈ X → ValidId c) : ∃ Y, compact X = .ok Y := by
  obtain ⟨Y, h1, _⟩ := compact_covered 29 X (allValid29 hX)
  exact ⟨Y, h1⟩

theorem mem_uncompact (Z : List Nat) (R : Nat) (hR : R ≤ 29) (hZ : ∀ c, c ∈ Z → ValidId c ∧ getResolution c ≤ (R : Int)) :
    ∃ U, uncompact Z R = .ok U ∧ ∀ x, x ∈ U ↔ (ValidId x ∧ getResolution x = (R : Int) ∧ ∃ z, z ∈ Z ∧ Covers z x) := by
  obtain ⟨f, h1, hf⟩ := C10.uncompact_valid Z R hR (fun c hc => (hZ c hc).1) (fun c hc => (hZ c hc).2)
  refine ⟨_, h1, fun x => ?_⟩
  rw [List.mem_flatMap]
  constructor
  · rintro ⟨c, hc, hx⟩
    have := ((hf c hc).2.2 x).1 hx
    exact ⟨this.1, this.2.1, c, hc, C06.covers_iff_parentIs.2 this.2.2⟩
  · rintro ⟨hv, hr, z, hz, hcov⟩
    exact ⟨z, hz, ((hf z hz).2.2 x).2 ⟨hv, hr, C06.covers_iff_parentIs.1 hcov⟩⟩

/-- C08 in the property's own observable form:
    `set(uncompact(compact(X), R)) == set(uncompact(X, R))` for every R ≥ every resolution in X. -/
theorem uncompact_compact_same_set (X : List Nat) (R : Nat) (hR : R ≤ 29)
    (hX : ∀ c, c ∈ X → ValidId c ∧ getResolution c ≤ (R : Int)) :
    ∃ Y UY UX, compact X = .ok Y ∧ uncompact Y R = .ok UY ∧ uncompact X R = .ok UX ∧ ∀ x, x ∈ UY ↔ x ∈ UX := by
  obtain ⟨Y, hY, hvY, hcov⟩ := coverage_preserved X R hX
  obtain ⟨UY, hUY, hmY⟩ := mem_uncompact Y R hR hvY
  obtain ⟨UX, hUX, hmX⟩ := mem_uncompact X R hR hX
  refine ⟨Y, UY, UX, hY, hUY, hUX, fun x => ?_⟩
  rw [hmY, hmX]
  exact and_congr_right fun hv => and_congr_right fun hr => hcov x hv hr

/-! non-vacuity: an ancestor next to its descendant, a duplicate and the world cell -/
example : ∀ c, c ∈ [encId 7 2 3, encId 7 0 2, encId 7 2 3, 0] → ValidId c ∧ getResolution c ≤ ((29 : Nat) : Int) := by
  refine allValid29 fun c hc => ?_
  simp only [List.mem_cons, List.not_mem_nil, or_false] at hc
  rcases hc with rfl | rfl | rfl | rfl
  · exact Or.inr ⟨7, 2, 3, by decide, rfl⟩
  · exact Or.inr ⟨7, 0, 2, by decide, rfl⟩
  · exact Or.inr ⟨7, 2, 3, by decide, rfl⟩
  · exact Or.inl rfl

end A5.C08
