/-
  C12 — boundary rings are well-formed polygons under every option combination (partial).

  PROVED on the executable model of `cell_to_boundary` itself (whatever the floating-point values): vertex count
  (3 at resolution 1, else 5) × segments (+1 iff closed_ring) for every option combination including omitted / None / 'auto'
  (max(1, 2^(6−res))) and segments ≤ 1 behaving as 1; a closed ring repeats its first vertex last; longitude normalisation never
  touches a latitude.  PROVED in exact arithmetic: the normalisation loops return the unique representative of the longitude
  mod 360 within 180° of the centre.  ASSUMED (numeric, swept every run): latitude range, counter-clockwise orientation,
  simplicity, corner points independent of `segments`, span < 180° away from the poles.
-/
import A5.Proofs.RingStructure
import Mathlib.Tactic.Linarith
import Mathlib.Tactic.Ring
import Mathlib.Algebra.Order.Ring.Rat

namespace A5.C12
open A5 A5.CellGeo A5.F

/-- C12 (1): vertex count and closure, for every cell id, every `closed_ring`, every `segments` (none = omitted/None/'auto') -/
theorem ring_count_and_closure (cellId : Nat) (closed : Bool) (segments : Option Int) (ring : List V2) (cell : Cell)
    (hne : cellId ≠ WORLD_CELL) (hd : deserialize cellId = .ok cell) (hr : cellToBoundary cellId closed segments = .ok ring) :
    ring.length = cornerCount cell.res * (max (effectiveSegments cell.res segments) 1).toNat + (if closed then 1 else 0) ∧
      (closed = true → ring.head? = ring.getLast?) := by
  unfold cellToBoundary at hr
  rw [if_neg hne, hd] at hr
  obtain ⟨cell', hc', hr⟩ := bind_eq_ok hr
  cases hc'
  obtain ⟨pent, hp, hr⟩ := bind_eq_ok hr
  have hlen := getPentagon_length hp
  obtain ⟨boundary, hm, hr⟩ := bind_eq_ok hr
  have hb : boundary.length = cornerCount cell.res * (max (effectiveSegments cell.res segments) 1).toNat := by
    rw [mapM_length _ _ _ hm, splitEdges_length, hlen]; rfl
  have hnl := normalizeLongitudes_length boundary
  cases closed with
  | false =>
    simp only [Bool.false_eq_true, if_false] at hr
    cases hr
    exact ⟨by rw [List.length_reverse, hnl, hb]; rfl, by intro h; cases h⟩
  | true =>
    simp only [if_true] at hr
    cases hr
    refine ⟨by rw [List.length_reverse, List.length_append, hnl, hb]; rfl, fun _ => ?_⟩
    rw [List.head?_reverse, List.getLast?_reverse, List.getLast?_concat]
    cases normalizeLongitudes boundary <;> rfl

theorem auto_rule (res : Int) : effectiveSegments res none = max 1 (if 6 - res ≥ 0 then (2 : Int) ^ (6 - res).toNat else 0) := rfl

theorem world_is_unbounded (closed : Bool) (segments : Option Int) : cellToBoundary WORLD_CELL closed segments = .ok [] := by
  unfold cellToBoundary; rw [if_pos rfl]

/-- C12 (2): longitude normalisation leaves every latitude as unprojected -/
theorem normalisation_keeps_latitudes (c : List V2) : (normalizeLongitudes c).map (·.2) = c.map (·.2) := by
  unfold normalizeLongitudes; simp [Function.comp_def]

/-! the two `while` loops of `normalize_longitudes` in exact arithmetic -/

def down (c : ℚ) : Nat → ℚ → ℚ
  | 0, l => l
  | f + 1, l => if l - c > 180 then down c f (l - 360) else l

def up (c : ℚ) : Nat → ℚ → ℚ
  | 0, l => l
  | f + 1, l => if l - c < -180 then up c f (l + 360) else l

/-- the middle clause: if a turn was subtracted, the last one started above `c + 180`, so it ends above `c − 180` -/
theorem down_spec (c : ℚ) : ∀ (f : Nat) (l : ℚ), ∃ k : ℕ, down c f l = l - 360 * k ∧ (k = 0 ∨ down c f l - c > -180) ∧
    (l - c ≤ 180 + 360 * f → down c f l - c ≤ 180) := by
  intro f
  induction f with
  | zero => intro l; exact ⟨0, by simp [down], Or.inl rfl, fun h => by simpa [down] using h⟩
  | succ f ih =>
    intro l
    simp only [down]
    split
    · obtain ⟨k, hk, h1, h2⟩ := ih (l - 360)
      refine ⟨k + 1, by rw [hk]; push_cast; ring, Or.inr ?_, fun h => h2 (by push_cast at h; linarith)⟩
      rcases h1 with rfl | h1
      · rw [hk]; push_cast; linarith
      · exact h1
    · exact ⟨0, by simp, Or.inl rfl, fun _ => by linarith⟩

theorem up_spec (c : ℚ) : ∀ (f : Nat) (l : ℚ), ∃ k : ℕ, up c f l = l + 360 * k ∧ (k = 0 ∨ up c f l - c < 180) ∧
    (l - c ≥ -180 - 360 * f → up c f l - c ≥ -180) := by
  intro f
  induction f with
  | zero => intro l; exact ⟨0, by simp [up], Or.inl rfl, fun h => by simpa [up] using h⟩
  | succ f ih =>
    intro l
    simp only [up]
    split
    · obtain ⟨k, hk, h1, h2⟩ := ih (l + 360)
      refine ⟨k + 1, by rw [hk]; push_cast; ring, Or.inr ?_, fun h => h2 (by push_cast at h; linarith)⟩
      rcases h1 with rfl | h1
      · rw [hk]; push_cast; linarith
      · exact h1
    · exact ⟨0, by simp, Or.inl rfl, fun _ => by linarith⟩

/-- C12 (3): the normalised longitude is the representative of `lon` mod 360 within 180° of the centre
    (so consecutive vertices differ by less than 360°, and by less than 180° whenever the ring spans less than 180°) -/
theorem normalised_longitude (c lon : ℚ) (f : Nat) (h : |lon - c| ≤ 180 + 360 * f) :
    |up c f (down c f lon) - c| ≤ 180 ∧ ∃ k : ℤ, up c f (down c f lon) = lon + 360 * k := by
  obtain ⟨hlo, hhi⟩ := abs_le.1 h
  have hf : (0:ℚ) ≤ 360 * (f : ℚ) := by positivity
  obtain ⟨k1, e1, d1, d2⟩ := down_spec c f lon
  have d2 := d2 hhi
  have hstart : down c f lon - c ≥ -180 - 360 * f := by
    rcases d1 with rfl | d1
    · rw [e1]; push_cast; linarith only [hlo]
    · linarith only [d1, hf]
  obtain ⟨k2, e2, u1, u2⟩ := up_spec c f (down c f lon)
  refine ⟨abs_le.2 ⟨u2 hstart, ?_⟩, (k2 : ℤ) - k1, by rw [e2, e1]; push_cast; ring⟩
  rcases u1 with rfl | u1
  · rw [e2]; push_cast; linarith only [d2]
  · exact u1.le

/-! non-vacuity -/
example : |(185 : ℚ) - (-170)| ≤ 180 + 360 * (1 : ℕ) := by norm_num [abs_le]
example : up (-170) 1 (down (-170) 1 185) = -175 := by norm_num [up, down]

end A5.C12
