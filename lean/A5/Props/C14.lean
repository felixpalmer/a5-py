/-
  C14 — the face projection preserves area for arbitrary regions (partial, thin).

  PROVED (exact arithmetic): the planar half of the slice-and-dice map is affine in the barycentric weights, and an affine map
  multiplies the signed area of EVERY triangle (hence every polygon) by one constant, the determinant of the face triangle —
  independent of where the region lies.  TIED: the projection model is compared bit for bit with the implementation every run.
  ASSUMED (numeric, swept with an independent spherical area formula): barycentric weights are proportional to spherical
  sub-triangle areas (the "dice" step); global constant = sphere area / 12 / face pentagon area to 1e-6.
-/
import A5.Props.C13

namespace A5.C14
open A5.C13

def area2 (a b c : ℚ × ℚ) : ℚ := (b.1 - a.1) * (c.2 - a.2) - (b.2 - a.2) * (c.1 - a.1)

/-- C14 (affine stage): mapping barycentric weights to the face plane multiplies every signed area by the same constant -/
theorem affine_scales_area (p1 p2 p3 : ℚ × ℚ) (u v w : ℚ × ℚ) :
    area2 (fromBary (u.1, u.2, 1 - (u.1 + u.2)) p1 p2 p3) (fromBary (v.1, v.2, 1 - (v.1 + v.2)) p1 p2 p3)
        (fromBary (w.1, w.2, 1 - (w.1 + w.2)) p1 p2 p3)
      = area2 p3 p1 p2 * area2 u v w := by
  unfold area2 fromBary; simp only; ring

/-- twice the signed area of a ring given with its first vertex repeated at the end -/
def ring2 : List (ℚ × ℚ) → ℚ
  | a :: b :: r => (a.1 * b.2 - b.1 * a.2) + ring2 (b :: r)
  | _ => 0

def aff (m11 m12 m21 m22 t1 t2 : ℚ) (v : ℚ × ℚ) : ℚ × ℚ := (m11 * v.1 + m12 * v.2 + t1, m21 * v.1 + m22 * v.2 + t2)

/-- open-chain version: the image of a chain differs from det · (chain) by a boundary term that only involves its two end points -/
theorem ring2_aff_chain (m11 m12 m21 m22 t1 t2 : ℚ) (a : ℚ × ℚ) (l : List (ℚ × ℚ)) :
    ring2 ((a :: l).map (aff m11 m12 m21 m22 t1 t2))
      = (m11 * m22 - m12 * m21) * ring2 (a :: l)
        + (t1 * ((m21 * ((a :: l).getLast (by simp)).1 + m22 * ((a :: l).getLast (by simp)).2) - (m21 * a.1 + m22 * a.2))
           - t2 * ((m11 * ((a :: l).getLast (by simp)).1 + m12 * ((a :: l).getLast (by simp)).2) - (m11 * a.1 + m12 * a.2))) := by
  induction l generalizing a with
  | nil => simp [ring2]
  | cons b r ih =>
    have hb := ih b
    simp only [List.map_cons] at hb ⊢
    rw [ring2, hb, ring2]
    simp only [List.getLast_cons_cons]
    simp only [aff]
    ring

/-- C14 (affine stage, any region): an affine map multiplies the shoelace area of EVERY closed polygon — any number of vertices,
    convex or not, wherever it lies — by its determinant.  (For the barycentric → face stage the determinant is twice the area of the
    face triangle: `affine_scales_area`.) -/
theorem affine_scales_polygon (m11 m12 m21 m22 t1 t2 : ℚ) (a : ℚ × ℚ) (l : List (ℚ × ℚ))
    (hclosed : (a :: l).getLast (by simp) = a) :
    ring2 ((a :: l).map (aff m11 m12 m21 m22 t1 t2)) = (m11 * m22 - m12 * m21) * ring2 (a :: l) := by
  rw [ring2_aff_chain, hclosed]; ring

/-- non-vacuity: a closed non-convex hexagon -/
example : ring2 [((0 : ℚ), (0 : ℚ)), (2, 0), (2, 2), (1, 1), (0, 2), (0, 0)] = 6 := by norm_num [ring2]
example : ring2 ([((0 : ℚ), (0 : ℚ)), (2, 0), (2, 2), (1, 1), (0, 2), (0, 0)].map (aff 2 0 1 3 5 (-7))) = 36 := by
  norm_num [ring2, aff]

end A5.C14
