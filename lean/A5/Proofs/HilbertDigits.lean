/-
  Digit strings of the Hilbert transducer stay digit strings (digits below 4, lengths kept, the value of n digits below 4^n),
  whatever the scalar type, the input point and the pattern table.  Core Lean only.
-/
import A5.Model.Hilbert

namespace A5.Hilbert

theorem ite_elim {α : Sort _} {P : α → Prop} {c : Prop} [Decidable c] {t e : α} (ht : P t) (he : P e) : P (ite c t e) :=
  iteInduction (fun _ => ht) (fun _ => he)

theorem quat_lt {α : Type} [Scalar α] (u v : α) (f : Flips) : ijToQuaternary u v f < 4 := by
  unfold ijToQuaternary
  repeat' apply ite_elim (P := (· < 4))
  all_goals decide

theorem shiftStep_lt (pat : List Nat) (inv : Bool) (fl : Flips) {p c : Nat} (hp : p < 4) (hc : c < 4) :
    (shiftStep pat inv fl p c).1 < 4 ∧ (shiftStep pat inv fl p c).2 < 4 :=
  ite_elim (P := fun r : Nat × Nat => r.1 < 4 ∧ r.2 < 4) ⟨hp, hc⟩ ⟨Nat.mod_lt _ (by decide), Nat.mod_lt _ (by decide)⟩

theorem decodeDigits_spec {α : Type} [Scalar α] (n : Nat) (x y px py : α) (f : Flips) :
    (decodeDigits n x y px py f).length = n ∧ ∀ d ∈ decodeDigits n x y px py f, d < 4 := by
  induction n generalizing px py f with
  | zero => simp [decodeDigits]
  | succ n ih =>
    simp only [decodeDigits, List.length_cons, List.forall_mem_cons, (ih _ _ _).1, true_and]
    exact ⟨quat_lt _ _ _, (ih _ _ _).2⟩

theorem fwd_spec (pat : List Nat) (inv : Bool) (cs : List Nat) (P : Nat) (f : Flips) (hP : P < 4) (hcs : ∀ c ∈ cs, c < 4) :
    (∀ x ∈ fwd pat inv P f cs, x < 4) ∧ (fwd pat inv P f cs).length = cs.length + 1 := by
  induction cs generalizing P f with
  | nil => simpa [fwd] using hP
  | cons c cs ih =>
    obtain ⟨hc, hcs⟩ := List.forall_mem_cons.1 hcs
    obtain ⟨s1, s2⟩ := shiftStep_lt pat inv f hP hc
    obtain ⟨i1, i2⟩ := ih _ (fmul f (qflips (shiftStep pat inv f P c).1)) s2 hcs
    simp only [fwd, List.forall_mem_cons, List.length_cons, i2]
    exact ⟨⟨s1, i1⟩, trivial⟩

theorem shiftAll_spec (pat : List Nat) (inv : Bool) (ds : List Nat) (h : ∀ d ∈ ds, d < 4) :
    (∀ x ∈ shiftAll pat inv ds, x < 4) ∧ (shiftAll pat inv ds).length = ds.length := by
  cases ds with
  | nil => simp [shiftAll]
  | cons d rest =>
    obtain ⟨hd, hrest⟩ := List.forall_mem_cons.1 h
    exact fwd_spec pat inv rest d (false, false) hd hrest

theorem bwd_spec (rpat : List Nat) (inv : Bool) : ∀ (ds : List Nat) (f : Flips), (∀ d ∈ ds, d < 4) →
    (bwd rpat inv f ds).1 < 4 ∧ (∀ d ∈ (bwd rpat inv f ds).2, d < 4) ∧ (bwd rpat inv f ds).2.length = ds.length - 1
  | [], _, _ => by simp [bwd]
  | [d], _, h => by simpa [bwd] using h
  | d :: d2 :: ds, f, h => by
    obtain ⟨hd, hrest⟩ := List.forall_mem_cons.1 h
    obtain ⟨i1, i2, i3⟩ := bwd_spec rpat inv (d2 :: ds) (fmul f (qflips d)) hrest
    obtain ⟨s1, s2⟩ := shiftStep_lt rpat inv f hd i1
    simp only [bwd, List.forall_mem_cons, List.length_cons] at i3 ⊢
    exact ⟨s1, ⟨s2, i2⟩, congrArg (· + 1) i3⟩

theorem unshiftAll_spec (rpat : List Nat) (inv : Bool) (ds : List Nat) (h : ∀ d ∈ ds, d < 4) :
    (∀ x ∈ unshiftAll rpat inv ds, x < 4) ∧ (unshiftAll rpat inv ds).length = ds.length := by
  cases ds with
  | nil => simp [unshiftAll]
  | cons d rest =>
    obtain ⟨b1, b2, b3⟩ := bwd_spec rpat inv (d :: rest) (false, false) h
    simp only [unshiftAll, List.length_cons, List.forall_mem_cons] at b3 ⊢
    exact ⟨⟨b1, b2⟩, congrArg (· + 1) b3⟩

theorem valueMSB_lt (ds : List Nat) (h : ∀ d ∈ ds, d < 4) : valueMSB ds < 4 ^ ds.length := by
  have fold : ∀ (ds : List Nat) (acc k : Nat), (∀ d ∈ ds, d < 4) → acc < 4 ^ k →
      ds.foldl (fun a d => 4 * a + d) acc < 4 ^ (k + ds.length) := by
    intro ds
    induction ds with
    | nil => intro acc k _ ha; exact ha
    | cons d ds ih =>
      intro acc k h ha
      obtain ⟨hd, hds⟩ := List.forall_mem_cons.1 h
      rw [List.foldl_cons, List.length_cons, ← Nat.add_assoc, Nat.add_right_comm]
      exact ih _ _ hds (by rw [Nat.pow_succ]; omega)
  simpa [valueMSB] using fold ds 0 0 h (by decide)

theorem ijToSCore_lt {α : Type} [Scalar α] (x y : α) (inv flipIJ : Bool) (n : Nat) : ijToSCore x y inv flipIJ n < 4 ^ n := by
  obtain ⟨hl, hd⟩ := decodeDigits_spec n x y (Scalar.ofInt 0) (Scalar.ofInt 0) (false, false)
  obtain ⟨ud, ul⟩ := unshiftAll_spec (reversePattern (if flipIJ then PATTERN_FLIPPED else PATTERN)) inv _ hd
  have := valueMSB_lt _ ud
  rwa [ul, hl] at this

/-- whatever the point and the scalar type, doubles included: C01's totality rests on it (`estimate_wf`,
    `C01.estimator_index_in_range`) -/
theorem ijToS_range {α : Type} [Scalar α] (x y : α) (n : Nat) (o : String) : 0 ≤ ijToS x y n o ∧ ijToS x y n o < (4 : Int) ^ n := by
  have key : ∀ s : Nat, s < 4 ^ n → 0 ≤ (if orientReverse o = true then (4 : Int) ^ n - (s : Int) - 1 else (s : Int)) ∧
      (if orientReverse o = true then (4 : Int) ^ n - (s : Int) - 1 else (s : Int)) < (4 : Int) ^ n := by
    intro s hs
    have : (s : Int) < (4 : Int) ^ n := by exact_mod_cast hs
    split <;> omega
  exact key _ (ijToSCore_lt _ _ _ _ n)

end A5.Hilbert
