/-
  `compact` on antichains: the initial sort by key is a sort by span, the working list stays sorted by span (hence
  duplicate free and an antichain), and a pass that changes nothing leaves no complete sibling group.
-/
import A5.Proofs.CompactProof
import A5.Proofs.Unique

namespace A5

def SpanSorted (l : List Nat) : Prop := l.Pairwise (fun a b => hi a ≤ lo b)

theorem Scan.le_lo {cur out : List Nat} {ch : Bool} (h : Scan cur out ch) {b : Nat} (hb : ∀ e, e ∈ cur → b ≤ lo e) :
    ∀ e, e ∈ out → b ≤ lo e := by
  induction h with
  | nil => exact hb
  | keep _ _ ih =>
    rw [List.forall_mem_cons] at hb ⊢
    exact ⟨hb.1, ih hb.2⟩
  | merge _ ms _ ih =>
    -- a parent starts where its first child starts
    rw [List.forall_mem_cons, List.forall_mem_append] at hb
    rw [List.forall_mem_cons, ms.lo_parent]
    exact ⟨hb.1, ih hb.2.2⟩

theorem Scan.sorted {cur out : List Nat} {ch : Bool} (h : Scan cur out ch) (hs : SpanSorted cur) : SpanSorted out := by
  induction h with
  | nil => exact hs
  | keep _ hsc ih =>
    obtain ⟨h1, h2⟩ := List.pairwise_cons.1 hs
    exact List.pairwise_cons.2 ⟨hsc.le_lo h1, ih h2⟩
  | @merge c _ k s _ _ _ _ mi ms hsc ih =>
    -- a parent ends where its last child ends
    obtain ⟨_, h2, h3⟩ := List.pairwise_append.1 (List.pairwise_cons.1 hs).2
    refine List.pairwise_cons.2 ⟨?_, ih h2⟩
    rw [ms.hi_parent]
    exact hsc.le_lo (h3 _ (last_mem_sibs c s (Nat.le_trans (by decide) mi.four_le)))

theorem Scan.quiet {cur out : List Nat} {ch : Bool} (h : Scan cur out ch) (hch : ch = false) :
    ∀ pre c rest, cur = pre ++ c :: rest → 0 ≤ getResolution c → hasAllSiblings c (getResolution c) rest = .ok false := by
  induction h with
  | nil => exact fun pre c rest h => absurd h.symm (List.append_ne_nil_of_right_ne_nil _ (List.cons_ne_nil _ _))
  | keep hk _ ih =>
    intro pre c rest hsplit
    cases pre with
    | nil =>
      obtain ⟨rfl, rfl⟩ := List.cons.inj hsplit
      exact hk
    | cons b pre =>
      exact ih hch pre c rest (List.cons.inj hsplit).2
  | merge => exact absurd hch.symm Bool.false_ne_true

theorem next_adjacent {pre rest : List Nat} {a b : Nat} (hs : SpanSorted (pre ++ a :: rest))
    (hpos : ∀ e, e ∈ pre ++ a :: rest → lo e < hi e) (hb : b ∈ pre ++ a :: rest) (hab : hi a = lo b) :
    ∃ rest', rest = b :: rest' := by
  obtain ⟨-, hpw, hpre⟩ := List.pairwise_append.1 hs
  obtain ⟨hra, hrest⟩ := List.pairwise_cons.1 hpw
  have hpa := hpos a (List.mem_append_right _ List.mem_cons_self)
  have hpb := hpos b hb
  -- `b` stands neither before `a` nor in its place, and a cell `e` between the two would have `hi a ≤ lo e < hi e ≤ lo b`
  rcases List.mem_append.1 hb with hb | hb
  · have := hpre b hb a List.mem_cons_self
    exact absurd (hab ▸ hpa) (Nat.lt_asymm (Nat.lt_of_lt_of_le hpb this))
  rcases List.mem_cons.1 hb with rfl | hb
  · exact absurd hab (Nat.ne_of_gt hpa)
  cases rest with
  | nil => cases hb
  | cons e rest' =>
    rcases List.mem_cons.1 hb with rfl | hb
    · exact ⟨rest', rfl⟩
    · have h1 := hra e List.mem_cons_self
      have h2 := (List.pairwise_cons.1 hrest).1 b hb
      have h3 := hpos e (List.mem_append_right _ (List.mem_cons_of_mem _ List.mem_cons_self))
      omega

/-- members `f 0 … f k` with consecutive spans stand contiguously, in this order, behind `f 0` -/
theorem chain_adjacent {l : List Nat} (hs : SpanSorted l) (hpos : ∀ e, e ∈ l → lo e < hi e) :
    ∀ (k : Nat) (f : Nat → Nat), (∀ j, j < k + 1 → f j ∈ l) → (∀ j, j + 1 < k + 1 → hi (f j) = lo (f (j + 1))) →
      ∀ pre rest, l = pre ++ f 0 :: rest → (List.range k).map (fun j => f (j + 1)) <+: rest := by
  intro k
  induction k with
  | zero => exact fun f _ _ pre rest _ => List.nil_prefix
  | succ k ih =>
    intro f hmem hcons pre rest hl
    subst hl
    have h1 : 1 < k + 1 + 1 := Nat.succ_lt_succ (Nat.succ_pos k)
    obtain ⟨rest', rfl⟩ := next_adjacent hs hpos (hmem 1 h1) (hcons 0 h1)
    have := ih (fun j => f (j + 1)) (fun j hj => hmem (j + 1) (Nat.succ_lt_succ hj))
      (fun j hj => hcons (j + 1) (Nat.succ_lt_succ hj)) (pre ++ [f 0]) rest' (List.append_cons pre (f 0) _)
    rw [List.range_succ_eq_map, List.map_cons, List.map_map]
    exact List.prefix_cons_inj _ |>.2 this

theorem sortedSet_sorted (X : List Nat) (hv : ∀ y, y ∈ X → ValidId y) (hanti : Antichain X) :
    SpanSorted (sortedSet hierarchicalKey X) := by
  refine (sortedSet_pairwise hierarchicalKey X).imp_of_mem fun {a b} ha hb h => ?_
  rw [mem_sortedSet] at ha hb
  -- distinct members of an antichain are incomparable, so their spans are disjoint, and the key sits inside 4·span
  rcases laminar (hv a ha) (hv b hb) with hc | hc | hd | hd
  · exact absurd (hanti a ha b hb hc) h.2
  · exact absurd (hanti b hb a ha hc).symm h.2
  · exact hd
  · have h1 := (key_span (hv b hb)).2
    have h2 := (key_span (hv a ha)).1
    omega

theorem SpanSorted.nodup {l : List Nat} (hs : SpanSorted l) (hv : ∀ y, y ∈ l → ValidId y) : l.Nodup := by
  unfold List.Nodup
  refine List.Pairwise.imp_of_mem ?_ hs
  intro a b ha _ hab hne
  subst hne
  exact Nat.not_le_of_lt (lo_lt_hi_valid (hv a ha)) hab

theorem SpanSorted.antichain {l : List Nat} (hs : SpanSorted l) (hv : ∀ y, y ∈ l → ValidId y) : Antichain l := by
  intro a ha b hb hc
  -- two members of the list are equal or have disjoint spans; an ancestor's span contains its descendant's
  have hdis : a = b ∨ hi a ≤ lo b ∨ hi b ≤ lo a :=
    List.Pairwise.forall_of_forall_of_flip (R := fun a b => a = b ∨ hi a ≤ lo b ∨ hi b ≤ lo a)
      (fun _ _ => Or.inl rfl) (hs.imp fun h => Or.inr (Or.inl h)) (hs.imp fun h => Or.inr (Or.inr h)) ha hb
  have hsp := covers_span (hv a ha) (hv b hb) hc
  have hpa := lo_lt_hi_valid (hv a ha)
  have hpb := lo_lt_hi_valid (hv b hb)
  omega

/-- A quiet pass over a span-sorted list leaves no complete sibling group: the children of `q` would be a chain with
    consecutive spans, hence sit in the list contiguously behind the first child, where `has_all_siblings` was false. -/
theorem Scan.reduced {Y : List Nat} (hq : Scan Y Y false) (hval : ∀ c, c ∈ Y → ValidId c) (hs : SpanSorted Y) : Reduced Y := by
  intro q hvq hres hg
  obtain ⟨r, i, h, hf, hr, rfl⟩ := first_child_exists hvq hres
  obtain ⟨mi, ms⟩ := merge_group h hf
  have hkpos : 0 < kids (r + 1) := Nat.lt_of_lt_of_le (by decide) mi.four_le
  have hk1 : kids (r + 1) - 1 + 1 = kids (r + 1) := Nat.sub_add_cancel hkpos
  have hall : ∀ j, j < kids (r + 1) → node (r + 1) i + j * stride r ∈ Y := fun j hj => by
    obtain ⟨hv, hrj⟩ := mi.sib_valid j hj
    exact hg _ hv (hrj.trans hr) ((mi.cover _ hv (Int.le_of_eq hrj.symm)).2 ⟨j, hj, covers_self hv⟩)
  obtain ⟨pre, rest, hl⟩ := List.append_of_mem (hall 0 hkpos)
  have hch := chain_adjacent hs (fun e he => lo_lt_hi_valid (hval e he)) (kids (r + 1) - 1)
    (fun j => node (r + 1) i + j * stride r) (fun j hj => hall j (hk1 ▸ hj)) (fun j hj => ms.consecutive j (hk1 ▸ hj))
    pre rest hl
  rw [Nat.zero_mul, Nat.add_zero] at hl
  have hfalse := hq.quiet rfl pre _ rest hl (by rw [getResolution_node_succ h]; exact Int.natCast_nonneg r)
  obtain ⟨b, hb, hbt⟩ := hasAll_node h rest
  rw [getResolution_node_succ h, hb] at hfalse
  exact absurd (hbt.2 ⟨hf, hch⟩) (by rw [Except.ok.inj hfalse]; exact Bool.false_ne_true)

theorem no_complete_group (L : Nat) (Y : List Nat) (hval : AllValid L Y) (hs : SpanSorted Y)
    (hq : scanPass Y = .ok (Y, false)) (q : Nat) (hvq : ValidId q) (hres : getResolution q ≤ 28) :
    ¬ HasCompleteGroup Y q := by
  obtain ⟨out, ch, h, hsc⟩ := scanPass_scan Y fun c hc => (hval c hc).1
  obtain ⟨rfl, rfl⟩ := Prod.mk.inj (Except.ok.inj (h.symm.trans hq))
  exact hsc.reduced (fun c hc => (hval c hc).1) hs q hvq hres

theorem compact_antichain (R : Nat) (X : List Nat) (hval : AllValid R X) (hanti : Antichain X) :
    ∃ Y, compact X = .ok Y ∧ SameCover R X Y ∧ SpanSorted Y ∧ Reduced Y := by
  obtain ⟨Y, h1, ⟨h2, h3⟩, h4⟩ := compact_spec (fun Y => SameCover R X Y ∧ SpanSorted Y) (fun l h c hc => (h.1.1 c hc).1)
    (fun _ _ _ h hs => ⟨h.1.scan hs, hs.sorted h.2⟩) X
    ⟨sameCover_sortedSet hval, sortedSet_sorted X (fun y hy => (hval y hy).1) hanti⟩
  exact ⟨Y, h1, h2, h3, h4.reduced (fun c hc => (h2.1 c hc).1) h3⟩

end A5
