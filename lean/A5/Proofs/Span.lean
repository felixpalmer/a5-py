/-
  Spans: every cell covers a half-open interval [lo, hi) of finest-level (resolution 29) cell indices, taken in
  hierarchical order: the cell with index i at level ℓ covers the block [i·wid ℓ, (i+1)·wid ℓ).  Laminarity and
  monotonicity for valid ids, the position of the sort key, and the complete sibling group under a parent.
-/
import A5.Proofs.Cover
import A5.Proofs.CompactLists

attribute [local instance 2000] instPowNat  -- see Bits.lean

namespace A5

/-! The span is defined on the bits of an id, as `span` in `harness/refids.py` computes it: `lo`, `hi` read the top six
  bits, the position field and the resolution and hand them to `loF`, `hiF` (`idxF`, `widthF`, `P28` are their parts).
  None of this mentions `node`, `wid` or the index, so a statement about spans (`SpanSorted`, `MergeSpans`, `laminar`)
  does not presuppose the node view.  `lo_node`/`hi_node` are the only bridge. -/

/-- finest-level cells in a segment -/
def P28 : Nat := 4 ^ 28

/-- index of a resolution-r cell (r ≥ 1) among the cells of its level, in hierarchical order -/
def idxF (t S r : Nat) : Nat := t * 4 ^ (r - 1) + S
/-- number of finest-level cells under a resolution-r cell (r ≥ 1) -/
def widthF (r : Nat) : Nat := 4 ^ (29 - r)

def loF (t S r : Nat) : Nat := if r = 0 then 5 * t * P28 else idxF t S r * widthF r
def hiF (t S r : Nat) : Nat := if r = 0 then 5 * (t + 1) * P28 else (idxF t S r + 1) * widthF r

/-- block arithmetic: a fine block `[j·w, (j+1)·w)` against the coarse block `[i·D·w, (i+1)·D·w)` -/
theorem block_tri (i j D w : Nat) (hD : 0 < D) :
    (j / D = i ∧ i * (D * w) ≤ j * w ∧ (j + 1) * w ≤ (i + 1) * (D * w)) ∨
    (j / D < i ∧ (j + 1) * w ≤ i * (D * w)) ∨ (i < j / D ∧ (i + 1) * (D * w) ≤ j * w) := by
  -- with q = j / D:  q·D ≤ j  and  j + 1 ≤ (q + 1)·D;  multiply by w and compare q with i
  have h1 : j / D * (D * w) ≤ j * w := by
    rw [← Nat.mul_assoc]
    exact Nat.mul_le_mul_right _ (Nat.div_mul_le_self j D)
  have h2 : (j + 1) * w ≤ (j / D + 1) * (D * w) := by
    rw [← Nat.mul_assoc]
    exact Nat.mul_le_mul_right _ (Nat.lt_mul_of_div_lt (Nat.lt_succ_self _) hD)
  rcases Nat.lt_trichotomy (j / D) i with h | h | h
  · exact Or.inr (Or.inl ⟨h, Nat.le_trans h2 (Nat.mul_le_mul_right _ h)⟩)
  · exact Or.inl ⟨h, h ▸ h1, h ▸ h2⟩
  · exact Or.inr (Or.inr ⟨h, Nat.le_trans (Nat.mul_le_mul_right _ h) h1⟩)

theorem loF_hiF {t S r : Nat} (h : WF t S r) :
    loF t S r = (t * npos r + S) * wid (r + 1) ∧ hiF t S r = (t * npos r + S + 1) * wid (r + 1) := by
  unfold loF hiF
  by_cases h0 : r = 0
  · subst h0
    rw [if_pos rfl, if_pos rfl, npos_small 0 S (Nat.zero_lt_succ 1) h.2.1, show npos 0 = 1 from rfl,
      show wid (0 + 1) = 5 * P28 from rfl]
    exact ⟨by ring, by ring⟩
  · rw [if_neg h0, if_neg h0, wid_of_two_le (Nat.succ_le_succ (Nat.pos_of_ne_zero h0)), npos_pow, Nat.succ_sub_succ 29 r]
    exact ⟨rfl, rfl⟩

/-- the world cell (id 0) spans all finest-level cells, `[0, 60 * P28)` -/
def lo (x : Nat) : Nat :=
  if x = 0 then 0
  else loF (x >>> 58) ((x % 2 ^ 58) / 2 ^ (mpos (getResolution x).toNat + 1)) (getResolution x).toNat

def hi (x : Nat) : Nat :=
  if x = 0 then 60 * P28
  else hiF (x >>> 58) ((x % 2 ^ 58) / 2 ^ (mpos (getResolution x).toNat + 1)) (getResolution x).toNat

theorem lo_hi_node {ℓ i : Nat} (h : IsNode ℓ i) : lo (node ℓ i) = i * wid ℓ ∧ hi (node ℓ i) = (i + 1) * wid ℓ := by
  cases ℓ with
  | zero =>
    obtain rfl := isNode_zero.1 h
    exact ⟨(Nat.zero_mul _).symm, (Nat.one_mul _).symm⟩
  | succ r =>
    have hw := h.wf
    unfold lo hi
    rw [node_eq_encId h, if_neg (encId_ne_zero _ _ _), if_neg (encId_ne_zero _ _ _)]
    simp only [getResolution_encId hw, Int.toNat_natCast, encId_top hw, encId_low hw, Bits.low_div_pow]
    rw [(loF_hiF hw).1, (loF_hiF hw).2, Nat.div_add_mod']
    exact ⟨rfl, rfl⟩

theorem lo_node {ℓ i : Nat} (h : IsNode ℓ i) : lo (node ℓ i) = i * wid ℓ := (lo_hi_node h).1

theorem hi_node {ℓ i : Nat} (h : IsNode ℓ i) : hi (node ℓ i) = (i + 1) * wid ℓ := (lo_hi_node h).2

theorem lo_lt_hi_valid {x : Nat} (hv : ValidId x) : lo x < hi x := by
  obtain ⟨ℓ, i, h, rfl⟩ := validId_iff_node.1 hv
  rw [lo_node h, hi_node h]
  exact Nat.mul_lt_mul_of_pos_right (Nat.lt_succ_self i) (wid_pos ℓ)

theorem span_tri {a x : Nat} (ha : ValidId a) (hx : ValidId x) (hr : getResolution a ≤ getResolution x) :
    (Covers a x ∧ lo a ≤ lo x ∧ hi x ≤ hi a) ∨ (¬ Covers a x ∧ hi x ≤ lo a) ∨ (¬ Covers a x ∧ hi a ≤ lo x) := by
  obtain ⟨ℓa, i, na, rfl⟩ := validId_iff_node.1 ha
  obtain ⟨ℓx, j, nx, rfl⟩ := validId_iff_node.1 hx
  rw [getResolution_node na, getResolution_node nx] at hr
  have hle : ℓa ≤ ℓx := Int.ofNat_le.1 (Int.le_of_sub_le_sub_right hr)
  rw [covers_node na nx, lo_node na, hi_node na, lo_node nx, hi_node nx, ← fan_mul_wid hle nx.1]
  rcases block_tri i j (fan ℓa ℓx) (wid ℓx) (fan_pos hle nx.1) with h | h | h
  · exact Or.inl ⟨⟨hle, h.1⟩, h.2⟩
  · exact Or.inr (Or.inl ⟨fun hc => Nat.ne_of_lt h.1 hc.2, h.2⟩)
  · exact Or.inr (Or.inr ⟨fun hc => Nat.ne_of_gt h.1 hc.2, h.2⟩)

theorem covers_span {a x : Nat} (ha : ValidId a) (hx : ValidId x) (hc : Covers a x) : lo a ≤ lo x ∧ hi x ≤ hi a := by
  rcases span_tri ha hx (covers_res ha hx hc) with h | h | h
  · exact h.2
  · exact absurd hc h.1
  · exact absurd hc h.1

theorem laminar {a x : Nat} (ha : ValidId a) (hx : ValidId x) :
    Covers a x ∨ Covers x a ∨ hi a ≤ lo x ∨ hi x ≤ lo a := by
  rcases Int.le_total (getResolution a) (getResolution x) with hr | hr
  · rcases span_tri ha hx hr with h | h | h
    · exact Or.inl h.1
    · exact Or.inr (Or.inr (Or.inr h.2))
    · exact Or.inr (Or.inr (Or.inl h.2))
  · rcases span_tri hx ha hr with h | h | h
    · exact Or.inr (Or.inl h.1)
    · exact Or.inr (Or.inr (Or.inl h.2))
    · exact Or.inr (Or.inr (Or.inr h.2))

/-- both `npos r · stride r` and `npos r · 4 · wid (r + 1)` are `2 ^ 58` -/
theorem stride_eq_wid {r : Nat} (h1 : 1 ≤ r) (hr : r ≤ 29) : stride r = 4 * wid (r + 1) := by
  apply Nat.eq_of_mul_eq_mul_left (npos_pos r)
  have := fan_mul_wid (Nat.zero_le (r + 1)) (Nat.succ_le_succ hr)
  rw [fan_zero_succ hr, if_neg (Nat.ne_of_gt h1), Nat.mul_assoc, show wid 0 = 60 * 4 ^ 28 from rfl] at this
  rw [npos_mul_stride hr, Nat.mul_left_comm, Nat.eq_of_mul_eq_mul_left (by decide) this]
  rfl

theorem four_wid_one : 4 * wid 1 = 5 * stride 0 := by decide

theorem marker_lt {r : Nat} (hr : r ≤ 29) : 2 ^ mpos r < 4 * wid (r + 1) := by
  rcases Nat.eq_zero_or_pos r with rfl | h1
  · decide
  · rw [← stride_eq_wid h1 hr]
    unfold stride
    split
    · exact Nat.pow_lt_pow_right (by decide) (Nat.lt_succ_of_le (mpos_le r hr))
    · exact Nat.pow_lt_pow_succ Nat.one_lt_two

theorem key_node {r i : Nat} (h : IsNode (r + 1) i) : hierarchicalKey (node (r + 1) i) = 4 * (i * wid (r + 1)) + 2 ^ mpos r := by
  unfold hierarchicalKey
  rw [getResolution_node_succ h]
  rcases Nat.eq_zero_or_pos r with rfl | h1
  · -- a face: the top six bits are the index, and the key adds them four times more
    rw [if_pos (show ((0 : Nat) : Int) = 0 from rfl), HSB_eq, show (58 : Int).toNat = 58 from rfl, Nat.shiftRight_eq_div_pow,
      node_div_top (by decide), Nat.shiftLeft_eq, ← show stride 0 = 2 ^ 58 from rfl, Nat.mul_left_comm 4 i, four_wid_one,
      node_succ]
    ring
  · rw [if_neg (Int.natCast_ne_zero.2 (Nat.ne_of_gt h1)), node_succ, stride_eq_wid h1 (Nat.le_of_succ_le_succ h.1),
      Nat.mul_left_comm]

theorem key_span {x : Nat} (hv : ValidId x) : 4 * lo x ≤ hierarchicalKey x ∧ hierarchicalKey x < 4 * hi x := by
  obtain ⟨ℓ, i, h, rfl⟩ := validId_iff_node.1 hv
  rw [lo_node h, hi_node h]
  cases ℓ with
  | zero =>
    unfold hierarchicalKey
    rw [isNode_zero.1 h, show node 0 0 = 0 from rfl, getResolution_zero, if_neg (by decide)]
    decide
  | succ r =>
    rw [key_node h, Nat.add_mul, Nat.one_mul, Nat.mul_add]
    exact ⟨Nat.le_add_right _ _, Nat.add_lt_add_left (marker_lt (Nat.le_of_succ_le_succ h.1)) _⟩

/-- `c` a first child, `r` its resolution, `k` the size of its sibling group, `s` the id stride between siblings, `p` the
    parent (the same letters in `MergeSpans`); `cover` asks `r ≤ getResolution x` since `p` covers itself, no child does -/
structure MergeInfo (c : Nat) (r : Int) (k s p : Nat) : Prop where
  expected : expectedChildren r = k
  stride : getStride r = .ok s
  parent : cellToParent c none = .ok p
  parent_valid : ValidId p
  parent_res : getResolution p = r - 1
  sib_valid : ∀ j, j < k → ValidId (c + j * s) ∧ getResolution (c + j * s) = r
  cover : ∀ x, ValidId x → r ≤ getResolution x → (Covers p x ↔ ∃ j, j < k ∧ Covers (c + j * s) x)

theorem MergeInfo.four_le {c : Nat} {r : Int} {k s p : Nat} (mi : MergeInfo c r k s p) : 4 ≤ k :=
  mi.expected ▸ expectedChildren_ge r

theorem MergeInfo.res_eq {c : Nat} {r : Int} {k s p : Nat} (mi : MergeInfo c r k s p) : getResolution c = r := by
  have := (mi.sib_valid 0 (Nat.lt_of_lt_of_le (by decide) mi.four_le)).2
  rwa [Nat.zero_mul, Nat.add_zero] at this

structure MergeSpans (c k s p : Nat) : Prop where
  lo_parent : lo p = lo c
  hi_parent : hi p = hi (c + (k - 1) * s)
  consecutive : ∀ j, j + 1 < k → hi (c + j * s) = lo (c + (j + 1) * s)

/-- the indices of a first child and its siblings -/
theorem div_eq_div_multiple_iff {k i q : Nat} (hk : 0 < k) (hi : i % k = 0) :
    q / k = i / k ↔ ∃ j, j < k ∧ q = i + j := by
  have e : k * (i / k) = i := Nat.mul_div_cancel' (Nat.dvd_of_mod_eq_zero hi)
  constructor
  · intro h
    exact ⟨q % k, Nat.mod_lt _ hk, by rw [← e, ← h, Nat.div_add_mod]⟩
  · rintro ⟨j, hj, rfl⟩
    exact ((Nat.div_mod_unique hk).2 ⟨by rw [e, Nat.add_comm], hj⟩).1

/-- a cell whose index is a multiple of the fan-out heads a complete sibling group: the `kids` cells from it on, one
    stride apart, are exactly the children of its parent, and their spans tile the parent's span in order.
    One statement for the 12 faces under the world, the 5 segments of a face and the 4 Hilbert children of a cell. -/
theorem merge_group {r i : Nat} (h : IsNode (r + 1) i) (hf : i % kids (r + 1) = 0) :
    MergeInfo (node (r + 1) i) r (kids (r + 1)) (stride r) (node r (i / kids (r + 1))) ∧
    MergeSpans (node (r + 1) i) (kids (r + 1)) (stride r) (node r (i / kids (r + 1))) := by
  have hr : r < 30 := h.1
  have hk := fan_succ hr
  have hkpos : 0 < kids (r + 1) := Nat.lt_of_lt_of_le (by decide) (four_le_kids (r + 1))
  have np : IsNode r (i / kids (r + 1)) := hk ▸ h.anc (Nat.le_succ r)
  have e : i / kids (r + 1) * kids (r + 1) = i := Nat.div_mul_cancel (Nat.dvd_of_mod_eq_zero hf)
  have hsib : ∀ j, j < kids (r + 1) → IsNode (r + 1) (i + j) := fun j hj =>
    .of_anc (Nat.le_succ r) h.1 (by rw [hk, (div_eq_div_multiple_iff hkpos hf).2 ⟨j, hj, rfl⟩]; exact np)
  have hw : ∀ q, q * wid r = q * kids (r + 1) * wid (r + 1) := fun q => by rw [wid_succ r hr, Nat.mul_assoc]
  constructor
  · refine ⟨expectedChildren_eq r, getStride_eq (Nat.le_of_lt_succ hr), cellToParent_node_none h,
      validId_iff_node.2 ⟨_, _, np, rfl⟩, getResolution_node np, ?_, ?_⟩
    · intro j hj
      rw [← node_add]
      exact ⟨validId_iff_node.2 ⟨_, _, hsib j hj, rfl⟩, getResolution_node_succ (hsib j hj)⟩
    · intro x hv hres
      obtain ⟨b, m, nx, rfl⟩ := validId_iff_node.1 hv
      rw [getResolution_node nx] at hres
      have hb : r + 1 ≤ b := Int.ofNat_lt.1 (Int.lt_of_le_sub_one hres)
      -- the level-r ancestor of x is the parent of its level-(r+1) ancestor, which is then one of the siblings
      rw [covers_node np nx, ← div_fan_div_fan (Nat.le_succ r) hb nx.1, hk, div_eq_div_multiple_iff hkpos hf,
        and_iff_right (Nat.le_of_succ_le hb)]
      refine exists_congr fun j => and_congr_right fun hj => ?_
      rw [← node_add, covers_node (hsib j hj) nx, and_iff_right hb]
  · refine ⟨?_, ?_, ?_⟩
    · rw [lo_node np, lo_node h, hw, e]
    · rw [← node_add, hi_node np, hi_node (hsib _ (Nat.sub_lt hkpos Nat.one_pos)), hw, Nat.succ_mul, e, Nat.add_assoc,
        Nat.sub_add_cancel hkpos]
    · intro j hj
      rw [← node_add, ← node_add, hi_node (hsib j (Nat.lt_of_succ_lt hj)), lo_node (hsib _ hj), Nat.add_assoc]

theorem first_child_exists {q : Nat} (hq : ValidId q) (hres : getResolution q ≤ 28) :
    ∃ r i, IsNode (r + 1) i ∧ i % kids (r + 1) = 0 ∧ (r : Int) = getResolution q + 1 ∧ node r (i / kids (r + 1)) = q := by
  obtain ⟨r, i, nq, rfl⟩ := validId_iff_node.1 hq
  rw [getResolution_node nq] at hres ⊢
  have hr : r < 30 := by omega
  have hkpos : 0 < kids (r + 1) := Nat.lt_of_lt_of_le (by decide) (four_le_kids (r + 1))
  have e : i * kids (r + 1) / kids (r + 1) = i := Nat.mul_div_cancel _ hkpos
  exact ⟨r, i * kids (r + 1), .of_anc (Nat.le_succ r) hr (by rwa [fan_succ hr, e]), Nat.mul_mod_left _ _, by omega, by rw [e]⟩

end A5
