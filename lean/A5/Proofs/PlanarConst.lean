/-
  The planar constants of the implementation (base pentagon, BASIS, BASIS_INVERSE, the two shift vectors) as rationals: `Tables.*_RAT`
  hold the exact values of the doubles as numerator and denominator, regenerated from /repo on every run.
-/
import A5.Gen.Tables
import Mathlib.Algebra.Order.Ring.Rat

namespace A5.Planar

def ratQ (p : Int × Nat) : ℚ := (p.1 : ℚ) / (p.2 : ℚ)
def getQ (l : List (Int × Nat)) (i : Nat) : ℚ := ratQ (l.getD i (0, 1))

def baseQ : List (ℚ × ℚ) := (List.range 5).map fun i => (getQ Tables.PENTAGON_RAT (2 * i), getQ Tables.PENTAGON_RAT (2 * i + 1))
def basisQ : ℚ × ℚ × ℚ × ℚ := (getQ Tables.BASIS_RAT 0, getQ Tables.BASIS_RAT 1, getQ Tables.BASIS_RAT 2, getQ Tables.BASIS_RAT 3)
def binvQ : ℚ × ℚ × ℚ × ℚ := (getQ Tables.BASIS_INVERSE_RAT 0, getQ Tables.BASIS_INVERSE_RAT 1, getQ Tables.BASIS_INVERSE_RAT 2, getQ Tables.BASIS_INVERSE_RAT 3)
def slQ : ℚ × ℚ := (getQ Tables.SHIFT_LEFT_RAT 0, getQ Tables.SHIFT_LEFT_RAT 1)
def srQ : ℚ × ℚ := (getQ Tables.SHIFT_RIGHT_RAT 0, getQ Tables.SHIFT_RIGHT_RAT 1)

theorem baseQ_length : baseQ.length = 5 := by simp [baseQ]

end A5.Planar
