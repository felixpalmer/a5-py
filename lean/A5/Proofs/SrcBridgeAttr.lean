import Lean.Meta.Tactic.Simp.RegisterCommand

/-- Oriented rewrite rules `Py.op ↑a ↑b = ↑(a op b)` / `= (op a b).map ↑` and the `Except` laws that move the
    cast `ℕ → ℤ` out of a translated expression. -/
register_simp_attr bridge
