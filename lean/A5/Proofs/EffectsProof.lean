/-
  Non-interference for disciplined programs, hence history independence; a scratch register breaks it.  Core Lean only.
-/
import A5.Model.Effects

namespace A5.Effects

variable {Slot Val Reg : Type} [DecidableEq Slot] [DecidableEq Reg]

omit [DecidableEq Reg] in
theorem upd_inv (f : Slot → Val) (σ : Store Slot Val Reg) (s : Slot) (h : Inv f σ) : Inv f (updMemo σ s (f s)) := by
  intro t v ht
  unfold updMemo at ht
  simp only at ht
  split at ht
  · cases ht; subst_vars; rfl
  · exact h t v ht

/-- Non-interference: a disciplined program returns its sequential denotation whatever the environment does between its
    atomic steps, and leaves the invariant intact — so it is itself an admissible environment for every other call. -/
theorem disc_stable (f : Slot → Val) {α : Type} (p : Prog Slot Val Reg α) (d : α) (hd : Disc f p d) :
    ∀ σ a σ', Runs f p σ a σ' → Inv f σ → a = d ∧ Inv f σ' := by
  induction hd with
  | ret a => intro σ a' σ' hr hi; cases hr; exact ⟨rfl, hi⟩
  | lookup s k d _ _ ih1 ih2 =>
    intro σ a σ' hr _
    cases hr with
    | lookup _ _ _ σ₁ _ _ hi1 hrun =>
      cases hσ : σ₁.memo s with
      | none => rw [hσ] at hrun; exact ih2 _ _ _ hrun hi1
      | some v =>
        rw [hσ] at hrun
        have : v = f s := hi1 s v hσ
        subst this
        exact ih1 _ _ _ hrun hi1
  | fill s k d _ ih =>
    intro σ a σ' hr _
    cases hr with
    | fill _ _ _ _ σ₁ _ _ hi1 hrun => exact ih _ _ _ hrun (upd_inv f σ₁ s hi1)
  | tick k d _ ih =>
    intro σ a σ' hr _
    cases hr with
    | tick _ _ σ₁ _ _ hi1 hrun => exact ih _ _ _ hrun hi1

/-- a history: calls executed one after the other (with arbitrary admissible interference in between and inside) -/
inductive RunsSeq (f : Slot → Val) {α : Type} : List (Prog Slot Val Reg α) → Store Slot Val Reg → List α → Store Slot Val Reg → Prop where
  | nil (σ) : RunsSeq f [] σ [] σ
  | cons (p ps σ a σ₁ as σ₂) : Runs f p σ a σ₁ → RunsSeq f ps σ₁ as σ₂ → RunsSeq f (p :: ps) σ (a :: as) σ₂

theorem history_independent (f : Slot → Val) {α : Type} (calls : List (Prog Slot Val Reg α × α))
    (hd : ∀ c ∈ calls, Disc f c.1 c.2) :
    ∀ σ results σ', Inv f σ → RunsSeq f (calls.map Prod.fst) σ results σ' → results = calls.map Prod.snd ∧ Inv f σ' := by
  induction calls with
  | nil => intro σ results σ' hi hr; cases hr; exact ⟨rfl, hi⟩
  | cons c cs ih =>
    intro σ results σ' hi hr
    cases hr with
    | cons _ _ _ a σ₁ as _ h1 h2 =>
      obtain ⟨e1, i1⟩ := disc_stable f c.1 c.2 (hd c (by simp)) σ a σ₁ h1 hi
      obtain ⟨e2, i2⟩ := ih (fun x hx => hd x (by simp [hx])) σ₁ as σ' i1 h2
      exact ⟨by simp [e1, e2], i2⟩

def Prog.bind {α β : Type} : Prog Slot Val Reg α → (α → Prog Slot Val Reg β) → Prog Slot Val Reg β
  | .ret a, k => k a
  | .lookup s c, k => .lookup s (fun o => (c o).bind k)
  | .fill s v c, k => .fill s v (c.bind k)
  | .tick c, k => .tick (c.bind k)
  | .regWrite r v c, k => .regWrite r v (c.bind k)
  | .regRead r c, k => .regRead r (fun v => (c v).bind k)

/-- the lazily filled cache pattern of `get_face_triangle` / `get_spherical_triangle` / `_get_triangle_constants`:
    return the slot if filled, else compute, store, return -/
def memo (s : Slot) (compute : Prog Slot Val Reg Val) : Prog Slot Val Reg Val :=
  .lookup s (fun o => match o with
    | some v => .ret v
    | none => compute.bind (fun v => .fill s v (.ret v)))

/-- write a value to a shared register, read it back later (what the pinned tree did with its module-level vectors) -/
def scratchRoundTrip (r : Reg) (x : Val) : Prog Slot Val Reg Val := .regWrite r x (.regRead r (fun v => .ret v))

theorem scratch_breaks (f : Slot → Val) (r : Reg) (x y : Val) (σ : Store Slot Val Reg) (hσ : Inv f σ) :
    ∃ σ', Runs f (scratchRoundTrip (Slot := Slot) r x) σ y σ' := by
  refine ⟨updReg σ r y, ?_⟩
  unfold scratchRoundTrip
  refine Runs.regWrite r x _ σ σ _ y hσ ?_
  -- between the write and the read another thread stores y in the same register
  refine Runs.regRead r _ _ (updReg σ r y) _ y hσ ?_
  have : (updReg σ r y).reg r = y := by simp [updReg]
  rw [this]
  exact Runs.ret y _

end A5.Effects
