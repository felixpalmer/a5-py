/-
  Strict monotonicity of the authalic series over ℝ: F φ = φ + sin 2φ · U(2 cos 2φ) with U the Clenshaw polynomial (`applyR_eq`).
  A small calculus of functions that are bounded and Lipschitz on a set (constants, sums, products, composition) gives a bound
  a₄ and a Lipschitz constant l₄ for U on [−2, 2] from the absolute values of the six coefficients, hence the Lipschitz constant
  L = 2·a₄ + 4·l₄ = 2|C₀| + 8|C₁| + 26|C₂| + 80|C₃| + 234|C₄| + 584|C₅| for the correction term; L < 1 for both tables.  `applyR`, `U`, `clen` and `applyR_eq` are in Props/C15, whose
  statements are about them.
-/
import A5.Props.C15
import Mathlib.Analysis.SpecialFunctions.Trigonometric.Bounds
import Mathlib.Tactic.Linarith
import Mathlib.Tactic.NormNum

namespace A5.C15
open Real

/-- `p = (bound, Lipschitz constant)` of `f` on `S` -/
def BL (S : Set ℝ) (f : ℝ → ℝ) (p : ℝ × ℝ) : Prop :=
  ∀ x ∈ S, ∀ y ∈ S, |f x| ≤ p.1 ∧ |f x - f y| ≤ p.2 * |x - y|

namespace BL
variable {S T : Set ℝ} {f g : ℝ → ℝ} {p q : ℝ × ℝ}

theorem const (c : ℝ) : BL S (fun _ => c) (|c|, 0) := fun _ _ _ _ => ⟨le_rfl, by simp⟩

theorem zero : BL S (fun _ => 0) (0, 0) := fun _ _ _ _ => by simp

theorem add (hf : BL S f p) (hg : BL S g q) : BL S (fun x => f x + g x) (p.1 + q.1, p.2 + q.2) := by
  intro x hx y hy
  obtain ⟨fa, fl⟩ := hf x hx y hy
  obtain ⟨ga, gl⟩ := hg x hx y hy
  refine ⟨(abs_add_le _ _).trans (add_le_add fa ga), ?_⟩
  rw [add_sub_add_comm, add_mul]
  exact (abs_add_le _ _).trans (add_le_add fl gl)

theorem sub (hf : BL S f p) (hg : BL S g q) : BL S (fun x => f x - g x) (p.1 + q.1, p.2 + q.2) := by
  intro x hx y hy
  obtain ⟨fa, fl⟩ := hf x hx y hy
  obtain ⟨ga, gl⟩ := hg x hx y hy
  refine ⟨(abs_sub _ _).trans (add_le_add fa ga), ?_⟩
  rw [sub_sub_sub_comm, add_mul]
  exact (abs_sub _ _).trans (add_le_add fl gl)

theorem mul (hf : BL S f p) (hg : BL S g q) : BL S (fun x => f x * g x) (p.1 * q.1, p.1 * q.2 + p.2 * q.1) := by
  intro x hx y hy
  obtain ⟨fa, fl⟩ := hf x hx y hy
  obtain ⟨ga, gl⟩ := hg x hx y hy
  have gb := (hg y hy x hx).1
  have hp : 0 ≤ p.1 := (abs_nonneg _).trans fa
  refine ⟨(abs_mul _ _).le.trans (mul_le_mul fa ga (abs_nonneg _) hp), ?_⟩
  calc |f x * g x - f y * g y| = |f x * (g x - g y) + (f x - f y) * g y| := by congr 1; ring
    _ ≤ |f x| * |g x - g y| + |f x - f y| * |g y| := by rw [← abs_mul, ← abs_mul]; exact abs_add_le _ _
    _ ≤ p.1 * (q.2 * |x - y|) + p.2 * |x - y| * q.1 :=
      add_le_add (mul_le_mul fa gl (abs_nonneg _) hp) (mul_le_mul fl gb (abs_nonneg _) ((abs_nonneg _).trans fl))
    _ = (p.1 * q.2 + p.2 * q.1) * |x - y| := by ring

theorem comp (hf : BL T f p) (hg : BL S g q) (hST : ∀ x ∈ S, g x ∈ T) (hp : 0 ≤ p.2) :
    BL S (fun x => f (g x)) (p.1, p.2 * q.2) := by
  intro x hx y hy
  obtain ⟨fa, fl⟩ := hf _ (hST x hx) _ (hST y hy)
  exact ⟨fa, fl.trans (by rw [mul_assoc]; exact mul_le_mul_of_nonneg_left (hg x hx y hy).2 hp)⟩

/-- a Lipschitz constant on a set with two points is not negative -/
theorem lip_nonneg (hf : BL S f p) {x y : ℝ} (hx : x ∈ S) (hy : y ∈ S) (hxy : x ≠ y) : 0 ≤ p.2 :=
  nonneg_of_mul_nonneg_left ((abs_nonneg _).trans (hf x hx y hy).2) (abs_pos.2 (sub_ne_zero.2 hxy))

end BL

def I2 : Set ℝ := {X | |X| ≤ 2}

/-- the bounds after a step `clen u v c`: `X` itself is bounded by 2 and 1-Lipschitz on `I2` -/
def clenBL (p q : ℝ × ℝ) (c : ℝ) : ℝ × ℝ := (2 * p.1 + q.1 + |c|, p.1 + 2 * p.2 + q.2)

theorem BL.clen {u v : ℝ → ℝ} {p q : ℝ × ℝ} (hu : BL I2 u p) (hv : BL I2 v q) (c : ℝ) : BL I2 (clen u v c) (clenBL p q c) := by
  have hX : BL I2 (fun X => X) (2, 1) := fun x hx _ _ => ⟨hx, by simp⟩
  intro x hx y hy
  obtain ⟨h1, h2⟩ := ((hX.mul hu).sub hv).add (BL.const c) x hx y hy
  exact ⟨h1, h2.trans (le_of_eq (by simp only [clenBL]; ring))⟩

/-- (a₄, l₄): bound and Lipschitz constant of `U C` on `I2`, computed along the same recurrence -/
def boundU (C : Fin 6 → ℝ) : ℝ × ℝ :=
  let p0 := clenBL (|C 5|, 0) (0, 0) (C 4)
  let p1 := clenBL p0 (0, 0) (C 3)
  let p2 := clenBL p1 p0 (C 2)
  let p3 := clenBL p2 p1 (C 1)
  clenBL p3 p2 (C 0)

theorem U_BL (C : Fin 6 → ℝ) : BL I2 (U C) (boundU C) :=
  have h0 := (BL.const (C 5)).clen BL.zero (C 4)
  have h1 := h0.clen BL.zero (C 3)
  have h2 := h1.clen h0 (C 2)
  have h3 := h2.clen h1 (C 1)
  h3.clen h2 (C 0)

theorem boundU_nonneg (C : Fin 6 → ℝ) : 0 ≤ (boundU C).2 :=
  (U_BL C).lip_nonneg (x := 0) (y := 1) (by norm_num [I2]) (by norm_num [I2]) zero_ne_one

theorem lipschitz_two_mul {f : ℝ → ℝ} (h : ∀ a b, |f a - f b| ≤ |a - b|) (x y : ℝ) : |f (2 * x) - f (2 * y)| ≤ 2 * |x - y| :=
  (h _ _).trans_eq (by rw [← mul_sub, abs_mul, abs_two])

theorem sin2_BL : BL Set.univ (fun φ => sin (2 * φ)) (1, 2) := fun x _ y _ =>
  ⟨abs_sin_le_one _, lipschitz_two_mul abs_sin_sub_sin_le x y⟩

theorem cos2_BL : BL Set.univ (fun φ => 2 * cos (2 * φ)) (2, 4) := fun x _ y _ => by
  have h := lipschitz_two_mul abs_cos_sub_cos_le x y
  rw [← mul_sub, abs_mul, abs_mul, abs_two]
  exact ⟨mul_le_of_le_one_right zero_le_two (abs_cos_le_one _), by linarith⟩

theorem strictMono_id_add {G : ℝ → ℝ} {K : ℝ} (hG : ∀ a b, |G b - G a| ≤ K * |b - a|) (hK : K < 1) :
    StrictMono fun x => x + G x := by
  intro a b hab
  have h1 := (abs_le.1 (hG a b)).1
  rw [abs_of_pos (sub_pos.2 hab)] at h1
  have h2 := mul_lt_mul_of_pos_right hK (sub_pos.2 hab)
  simp only
  linarith

/-- C15: the correction is the product of `sin 2φ`, which is (1, 2), and `U (2 cos 2φ)`, which is (a₄, 4·l₄): its Lipschitz
    constant is 2·a₄ + 4·l₄ -/
theorem strictMono_of_small (C : Fin 6 → ℝ) (hL : 2 * (boundU C).1 + 4 * (boundU C).2 < 1) : StrictMono (applyR C) := by
  have hG := sin2_BL.mul ((U_BL C).comp cos2_BL (fun x _ => (cos2_BL x trivial x trivial).1) (boundU_nonneg C))
  rw [funext (applyR_eq C)]
  exact strictMono_id_add (fun a b => (hG b trivial a trivial).2) (by linarith)

/-- the coefficient tables as exact rationals (the exact values of the implementation's doubles, regenerated each run) -/
noncomputable def coeffs (l : List (Int × Nat)) : Fin 6 → ℝ :=
  fun i => ((l.getD i.val (0, 1)).1 : ℝ) / ((l.getD i.val (0, 1)).2 : ℝ)

/-- the Lipschitz constant of the correction term in closed form: the recurrence is unfolded once, on variables -/
theorem lip_eq (C : Fin 6 → ℝ) :
    2 * (boundU C).1 + 4 * (boundU C).2 = 2 * |C 0| + 8 * |C 1| + 26 * |C 2| + 80 * |C 3| + 234 * |C 4| + 584 * |C 5| := by
  simp only [boundU, clenBL]
  ring

theorem lip_six (a b c d e f : Int × Nat) :
    2 * (boundU (coeffs [a, b, c, d, e, f])).1 + 4 * (boundU (coeffs [a, b, c, d, e, f])).2 =
      2 * |(a.1 : ℝ) / a.2| + 8 * |(b.1 : ℝ) / b.2| + 26 * |(c.1 : ℝ) / c.2| + 80 * |(d.1 : ℝ) / d.2| + 234 * |(e.1 : ℝ) / e.2|
        + 584 * |(f.1 : ℝ) / f.2| :=
  lip_eq _

theorem forward_small :
    2 * (boundU (coeffs Tables.GEODETIC_TO_AUTHALIC_RAT)).1 + 4 * (boundU (coeffs Tables.GEODETIC_TO_AUTHALIC_RAT)).2 < 1 := by
  rw [Tables.GEODETIC_TO_AUTHALIC_RAT, lip_six]
  norm_num [abs_div, abs_of_pos, abs_of_neg]

theorem inverse_small :
    2 * (boundU (coeffs Tables.AUTHALIC_TO_GEODETIC_RAT)).1 + 4 * (boundU (coeffs Tables.AUTHALIC_TO_GEODETIC_RAT)).2 < 1 := by
  rw [Tables.AUTHALIC_TO_GEODETIC_RAT, lip_six]
  norm_num [abs_div, abs_of_pos, abs_of_neg]

end A5.C15
