/-
  Source-level tie for `uncompact`: the translated two passes (sizes, then a pre-allocated result list written by
  index) against the model.
-/
import A5.Proofs.SrcBridgeLoops

namespace A5.Bridge
open A5

/-- the inner `for j, child in enumerate(children)`, from `j = idx` on -/
theorem for3_uncompact_eq (cs : List Nat) (idx off : Nat) (res : List Nat) :
    Src.compact.uncompact_for3 (cs.map Int.ofNat) idx (off : Int) (res.map Int.ofNat)
      = (writeBlock res (off + idx) cs).map (List.map Int.ofNat) := by
  induction cs generalizing idx res with
  | nil => rfl
  | cons c cs ih =>
    rw [List.map_cons, Src.compact.uncompact_for3, writeBlock]
    simp only [bridge, listSet_nat, ih, Nat.add_assoc]

theorem for1_uncompact_eq (cells : List Nat) (t : Int) (racc : List Int) (nacc : Nat) :
    Src.compact.uncompact_for1 (cells.map Int.ofNat) t racc (nacc : Int)
      = (uncompactResolutions t cells).map
          (fun rs => (racc ++ rs, ((nacc + (rs.map fun r => getNumChildren r t).sum : Nat) : Int))) := by
  induction cells generalizing racc nacc with
  | nil =>
    rw [List.map_nil, Src.compact.uncompact_for1, uncompactResolutions, List.mapM_nil]
    simp only [bridge, List.append_nil, List.map_nil, List.sum_nil, Nat.add_zero]
  | cons c cells ih =>
    unfold uncompactResolutions at ih ⊢
    rw [List.map_cons, Src.compact.uncompact_for1, List.mapM_cons]
    simp only [bridge, map_eq_bind, get_resolution_eq, get_num_children_eq, ih, List.append_assoc, List.singleton_append,
      List.map_cons, List.sum_cons, Nat.add_assoc]

/-- the fill pass `for i, cell in enumerate(cells)`, from `i = |pre|` on (`pre`: the resolutions already consumed) -/
theorem for2_uncompact_eq (t : Int) (cells : List Nat) (pre rs : List Int) (hlen : cells.length = rs.length)
    (res : List Nat) (off : Nat) :
    Src.compact.uncompact_for2 (cells.map Int.ofNat) pre.length t (pre ++ rs) (res.map Int.ofNat) (off : Int)
      = (uncompactFill t (cells.zip rs) res off).map
          (fun r => (r.map Int.ofNat, ((off + (rs.map fun r => getNumChildren r t).sum : Nat) : Int))) := by
  induction cells generalizing pre rs res off with
  | nil =>
    cases rs with
    | nil => simp only [bridge, List.map_nil, Src.compact.uncompact_for2, List.zip_nil_left, uncompactFill, List.sum_nil, Nat.add_zero]
    | cons r rs => cases hlen
  | cons c cells ih =>
    cases rs with
    | nil => cases hlen
    | cons r rs =>
      have ih' := fun res' => ih (pre ++ [r]) rs (Nat.succ.inj hlen) res' (off + getNumChildren r t)
      rw [List.map_cons, Src.compact.uncompact_for2, List.zip_cons_cons, uncompactFill]
      simp only [List.length_append, List.length_singleton, List.append_assoc, List.singleton_append] at ih'
      simp only [bridge, map_eq_bind, listGet_append_mid, get_num_children_eq, Nat.cast_eq_one, listSet_nat, cell_to_children_eq,
        for3_uncompact_eq, ih', writeBlock, List.map_cons, List.sum_cons, Nat.add_assoc, Nat.add_zero]

theorem uncompact_eq (cells : List Nat) (t : Int) :
    Src.compact.uncompact (cells.map Int.ofNat) t = (uncompact cells t).map (List.map Int.ofNat) := by
  unfold Src.compact.uncompact uncompact
  have h1 := for1_uncompact_eq cells t [] 0
  rw [Nat.cast_zero] at h1
  simp only [h1, bridge, map_eq_bind, List.nil_append, Nat.zero_add]
  cases hr : uncompactResolutions t cells with
  | error e => rfl
  | ok rs =>
    have hlen : cells.length = rs.length := (mapM_length _ _ _ hr).symm
    have h2 := for2_uncompact_eq t cells [] rs hlen (List.replicate (rs.map fun r => getNumChildren r t).sum 0) 0
    have hrep : Py.replicate (((rs.map fun r => getNumChildren r t).sum : Nat) : Int) (0 : Int)
        = (List.replicate (rs.map fun r => getNumChildren r t).sum 0).map Int.ofNat := by
      rw [Py.replicate, Int.toNat_natCast, List.map_replicate]
      rfl
    rw [List.length_nil, List.nil_append, Nat.cast_zero] at h2
    simp only [bridge, map_eq_bind, hrep, h2]

end A5.Bridge
