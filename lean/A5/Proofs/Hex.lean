/-
  hex text: every non-empty string of hexadecimal digit characters (either case, leading zeros allowed) parses to its value;
  hence `parse ∘ print = id` for every natural number (not only below 2^64).  Core Lean only.
-/
import A5.Model.Hex

namespace A5

def hexDigitCharU (d : Nat) : Char :=
  if d < 10 then Char.ofNat (48 + d) else Char.ofNat (55 + d)

def digitsValue (ds : List Nat) : Nat := ds.foldl (fun a d => 16 * a + d) 0

theorem digitsValue_append (xs : List Nat) (d : Nat) : digitsValue (xs ++ [d]) = 16 * digitsValue xs + d := by
  simp [digitsValue, List.foldl_append]

theorem digitsValue_zeros_append (k : Nat) (ds : List Nat) : digitsValue (List.replicate k 0 ++ ds) = digitsValue ds := by
  induction k with
  | zero => rfl
  | succ k ih =>
    rw [List.replicate_succ, List.cons_append]
    exact ih

def hexChars : List Char :=
  ['0', '1', '2', '3', '4', '5', '6', '7', '8', '9', 'a', 'b', 'c', 'd', 'e', 'f', 'A', 'B', 'C', 'D', 'E', 'F']

def charVal (c : Char) : Nat := (hexVal c).getD 0

/-- none of the characters `int()` treats specially: underscore, sign, prefix, white space -/
theorem hexChars_facts : ∀ c ∈ hexChars,
    hexVal c = some (charVal c) ∧ c ≠ '_' ∧ c ≠ '+' ∧ c ≠ '-' ∧ c ≠ 'x' ∧ c ≠ 'X' ∧ isPySpace c = false := by
  decide

theorem hexDigitChar_spec : ∀ d : Fin 16, hexDigitChar d ∈ hexChars ∧ charVal (hexDigitChar d) = d := by decide

theorem hexDigitCharU_spec : ∀ d : Fin 16, hexDigitCharU d ∈ hexChars ∧ charVal (hexDigitCharU d) = d := by decide

theorem hexDigits_lt (n : Nat) : ∀ d ∈ hexDigits n, d < 16 := by
  induction n using hexDigits.induct with
  | case1 n h => intro d hd; rw [hexDigits, dif_pos h, List.mem_singleton] at hd; exact hd ▸ h
  | case2 n h ih =>
    intro d hd
    rw [hexDigits, dif_neg h] at hd
    simp only [List.mem_append, List.mem_singleton] at hd
    rcases hd with hd | rfl
    · exact ih d hd
    · exact Nat.mod_lt _ (by decide)

theorem hexDigits_value (n : Nat) : digitsValue (hexDigits n) = n := by
  induction n using hexDigits.induct with
  | case1 n h => rw [hexDigits, dif_pos h]; simp [digitsValue]
  | case2 n h ih => rw [hexDigits, dif_neg h, digitsValue_append, ih]; omega

theorem hexDigits_ne_nil (n : Nat) : hexDigits n ≠ [] := by
  rw [hexDigits]; split <;> simp

theorem hexDigits_head (n : Nat) : ∃ h t, hexDigits n = h :: t ∧ (h = 0 → n = 0 ∧ t = []) := by
  induction n using hexDigits.induct with
  | case1 n h => exact ⟨n, [], by rw [hexDigits, dif_pos h], fun h0 => ⟨h0, rfl⟩⟩
  | case2 n h ih =>
    obtain ⟨h', t', e, hz⟩ := ih
    refine ⟨h', t' ++ [n % 16], by rw [hexDigits, dif_neg h, e]; rfl, ?_⟩
    intro h0
    have := (hz h0).1
    omega

theorem parseDigits_digits (cs : List Char) (h : ∀ c ∈ cs, c ∈ hexChars) (acc : Option Nat) :
    parseDigits cs false acc =
      if cs = [] then acc else some ((cs.map charVal).foldl (fun a d => 16 * a + d) (acc.getD 0)) := by
  induction cs generalizing acc with
  | nil => simp [parseDigits]
  | cons c cs ih =>
    obtain ⟨hc, hcs⟩ := List.forall_mem_cons.1 h
    obtain ⟨hv, hu, _⟩ := hexChars_facts c hc
    unfold parseDigits
    rw [if_neg hu, hv]
    simp only
    rw [ih hcs]
    cases cs <;> simp

theorem parse_digit_string (cs : List Char) (h : ∀ c ∈ cs, c ∈ hexChars) (hne : cs ≠ []) :
    parseHexChars cs = some (digitsValue (cs.map charVal) : Int) := by
  obtain ⟨c0, cs', rfl⟩ := List.exists_cons_of_ne_nil hne
  have hsp : ∀ c ∈ c0 :: cs', isPySpace c = false := fun c hc => (hexChars_facts c (h c hc)).2.2.2.2.2.2
  obtain ⟨_, hu, hplus, hminus, _⟩ := hexChars_facts c0 (h c0 (by simp))
  unfold parseHexChars
  dsimp only
  have strip : ∀ l : List Char, (∀ c ∈ l, isPySpace c = false) → l.dropWhile isPySpace = l := by
    intro l hl
    cases l with
    | nil => rfl
    | cons c l => exact List.dropWhile_cons_of_neg (by simp [hl c])
  rw [strip _ hsp, strip _ (fun c hc => hsp c (List.mem_reverse.1 hc)), List.reverse_reverse]
  have hsign : stripSign (c0 :: cs') = (false, c0 :: cs') := by
    simp only [stripSign, if_neg hplus, if_neg hminus]
  rw [hsign]
  simp only
  have hpre : stripPrefix (c0 :: cs') = c0 :: cs' := by
    cases cs' with
    | nil => rfl
    | cons c1 _ =>
      obtain ⟨_, _, _, _, hx, hX, _⟩ := hexChars_facts c1 (h c1 (by simp))
      have hc : ¬ (c0 = '0' ∧ (c1 = 'x' ∨ c1 = 'X')) := fun hh => hh.2.elim hx hX
      simp only [stripPrefix, if_neg hc]
  rw [hpre]
  simp only
  rw [if_neg hu, parseDigits_digits _ h none, if_neg (by simp)]
  simp [digitsValue]

theorem parse_printed {f : Nat → Char} (hf : ∀ d : Fin 16, f d ∈ hexChars ∧ charVal (f d) = d) (ds : List Nat)
    (hlt : ∀ d ∈ ds, d < 16) (hne : ds ≠ []) : parseHexChars (ds.map f) = some (digitsValue ds : Int) := by
  have hval : (ds.map f).map charVal = ds := by
    rw [List.map_map]
    exact (List.map_congr_left fun d hd => (hf ⟨d, hlt d hd⟩).2).trans (List.map_id ds)
  rw [parse_digit_string _ _ (by simpa using hne), hval]
  intro c hc
  obtain ⟨d, hd, rfl⟩ := List.mem_map.1 hc
  exact (hf ⟨d, hlt d hd⟩).1

end A5
