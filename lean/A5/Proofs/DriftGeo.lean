/-
  C07, geometric half in exact arithmetic: the centroid of a placed pentagon is `frame` (lattice translation, scaling, quintant matrix)
  of the centroid of its shape (`cen_place`); hence, for a child anchor (level n+1) and a parent anchor (level n) moved by the lattice
  vectors `2w` and `w`, the displacement between the two centroids is `rot · δ / 2^n` with δ free of `w`, `n` and `rot` (`cen_diff`).
-/
import A5.Proofs.Congruence

namespace A5.Hilbert

def Anchor.shift (a : Anchor) (w : Int × Int) : Anchor := { a with i := a.i + w.1, j := a.j + w.2 }

end A5.Hilbert

namespace A5.Planar
open A5.Hilbert

/-- planar position (before scaling and rotation) of the cell of an anchor, in lattice units of its own level -/
def posOf (base : List (ℚ × ℚ)) (basis : ℚ × ℚ × ℚ × ℚ) (sl sr : ℚ × ℚ) (fl : Flips) (k : Nat) (x y : ℚ) : ℚ × ℚ :=
  ((cen (shapeOf base sl sr fl k)).1 + (basis.1 * x + basis.2.1 * y), (cen (shapeOf base sl sr fl k)).2 + (basis.2.2.1 * x + basis.2.2.2 * y))

theorem frame_cen (base : List (ℚ × ℚ)) (basis : ℚ × ℚ × ℚ × ℚ) (sl sr : ℚ × ℚ) (rot : ℚ × ℚ × ℚ × ℚ) (h : Nat) (fl : Flips) (k : Nat)
    (x y : ℚ) :
    frame basis rot h x y (cen (shapeOf base sl sr fl k)) =
      applyMat rot ((posOf base basis sl sr fl k x y).1 * (1 / 2 ^ h), (posOf base basis sl sr fl k x y).2 * (1 / 2 ^ h)) :=
  rfl

theorem cen_place (base : List (ℚ × ℚ)) (hb : base.length = 5) (basis : ℚ × ℚ × ℚ × ℚ) (sl sr : ℚ × ℚ) (rot : ℚ × ℚ × ℚ × ℚ)
    (h : Nat) (a : Anchor) :
    cen (place base basis sl sr rot h a) = frame basis rot h a.i a.j (cen (shapeOf base sl sr a.flips a.k)) := by
  rw [place_eq, cen_map (frame_aff basis rot h a.i a.j) _ (by rw [shapeOf_length, hb])]

theorem applyMat_sub (m : ℚ × ℚ × ℚ × ℚ) (u v : ℚ × ℚ) : applyMat m u - applyMat m v = applyMat m (u - v) := by
  simp only [applyMat, sc_add, sc_mul]
  ext <;> simp only [Prod.fst_sub, Prod.snd_sub] <;> ring

/-- one coordinate of the step from level n to level n+1: the common part `u, v` of the two lattice offsets cancels -/
theorem half_step (n : Nat) (c c' b₁ b₂ u v x y x' y' : ℚ) :
    (c + (b₁ * (x + 2 * u) + b₂ * (y + 2 * v))) * (1 / 2 ^ (n + 1)) - (c' + (b₁ * (x' + u) + b₂ * (y' + v))) * (1 / 2 ^ n) =
      ((c + (b₁ * x + b₂ * y)) / 2 - (c' + (b₁ * x' + b₂ * y'))) / 2 ^ n := by
  ring

theorem cen_diff (base : List (ℚ × ℚ)) (hb : base.length = 5) (basis : ℚ × ℚ × ℚ × ℚ) (sl sr : ℚ × ℚ) (rot : ℚ × ℚ × ℚ × ℚ)
    (n : Nat) (ac ap : Anchor) (w : Int × Int) :
    cen (place base basis sl sr rot (n + 1) (ac.shift (2 * w.1, 2 * w.2))) - cen (place base basis sl sr rot n (ap.shift w)) =
      applyMat rot
        (((posOf base basis sl sr ac.flips ac.k ac.i ac.j).1 / 2 - (posOf base basis sl sr ap.flips ap.k ap.i ap.j).1) / 2 ^ n,
         ((posOf base basis sl sr ac.flips ac.k ac.i ac.j).2 / 2 - (posOf base basis sl sr ap.flips ap.k ap.i ap.j).2) / 2 ^ n) := by
  rw [cen_place base hb, cen_place base hb, frame, frame, applyMat_sub]
  simp only [Anchor.shift, Int.cast_add, Int.cast_mul, Int.cast_ofNat, Prod.mk_sub_mk, half_step]
  rfl

end A5.Planar
