/-
  Every shape operation of `Planar` keeps the number of vertices, over any scalar type; so does `place`.  Core Lean only.
-/
import A5.Model.Planar

namespace A5.Planar
open A5.Hilbert (Scalar Anchor)

variable {α : Type} [Scalar α]

@[simp] theorem mkShape_length (vs : List (P2 α)) : (mkShape vs).length = vs.length := by
  unfold mkShape
  split <;> simp

@[simp] theorem rotate180_length (vs : List (P2 α)) : (rotate180 vs).length = vs.length := by simp [rotate180]

@[simp] theorem reflectY_length (vs : List (P2 α)) : (reflectY vs).length = vs.length := by simp [reflectY]

@[simp] theorem translate_length (vs : List (P2 α)) (t : P2 α) : (translate vs t).length = vs.length := by simp [translate]

@[simp] theorem scaleBy_length (vs : List (P2 α)) (s : α) : (scaleBy vs s).length = vs.length := by simp [scaleBy]

@[simp] theorem transform_length (vs : List (P2 α)) (m : α × α × α × α) : (transform vs m).length = vs.length := by
  simp [transform]

/-- `length` is pushed through the `if`s of `place` (`apply_ite`), after which both branches of each agree: no case split -/
theorem place_length (base : List (P2 α)) (basis : α × α × α × α) (sl sr : P2 α) (rot : α × α × α × α) (h : Nat) (a : Anchor) :
    (place base basis sl sr rot h a).length = base.length := by
  simp only [place, transform_length, scaleBy_length, translate_length, rotate180_length, reflectY_length, mkShape_length,
    apply_ite List.length, ite_self]

end A5.Planar
