/-
  `compact`: what one scan pass does (`Scan`), and the principle that whatever a pass preserves, `compact` establishes.
  Instances here: validity and coverage.  The loop terminates within its fuel.
-/
import A5.Proofs.Span
import A5.Proofs.CompactLists

namespace A5

def AllValid (L : Nat) (l : List Nat) : Prop := ∀ c, c ∈ l → ValidId c ∧ getResolution c ≤ (L : Int)

theorem allValid29 {X : List Nat} (h : ∀ c, c ∈ X → ValidId c) : AllValid 29 X :=
  fun c hc => ⟨h c hc, (getResolution_range c).2⟩

theorem allValid_cons {R c : Nat} {l : List Nat} :
    AllValid R (c :: l) ↔ (ValidId c ∧ getResolution c ≤ (R : Int)) ∧ AllValid R l := List.forall_mem_cons

theorem allValid_append {R : Nat} {l₁ l₂ : List Nat} : AllValid R (l₁ ++ l₂) ↔ AllValid R l₁ ∧ AllValid R l₂ :=
  List.forall_mem_append

/-- the `k - 1` ids that have to follow a first child `c` for its group of `k` to be complete -/
def sibs (c s k : Nat) : List Nat := (List.range (k - 1)).map fun j => c + (j + 1) * s

theorem sibs_length (c s k : Nat) : (sibs c s k).length = k - 1 := by
  unfold sibs
  rw [List.length_map, List.length_range]

theorem last_mem_sibs (c s : Nat) {k : Nat} (hk : 2 ≤ k) : c + (k - 1) * s ∈ sibs c s k := by
  obtain ⟨k, rfl⟩ := Nat.exists_eq_add_of_le' hk
  exact List.mem_map.2 ⟨k, List.mem_range.2 (Nat.lt_succ_self k), rfl⟩

theorem siblingsFollow_iff (c s k : Nat) (rest : List Nat) : siblingsFollow c s k rest = true ↔ sibs c s k <+: rest := by
  unfold siblingsFollow sibs
  simp only [List.all_eq_true, List.mem_range, beq_iff_eq, List.prefix_iff_getElem?, List.length_map, List.length_range,
    List.getElem_map, List.getElem_range]

theorem hasAll_node {r i : Nat} (h : IsNode (r + 1) i) (rest : List Nat) :
    ∃ b, hasAllSiblings (node (r + 1) i) r rest = .ok b ∧
      (b = true ↔ i % kids (r + 1) = 0 ∧ sibs (node (r + 1) i) (stride r) (kids (r + 1)) <+: rest) := by
  unfold hasAllSiblings
  simp only
  rw [expectedChildren_eq]
  by_cases hk : kids (r + 1) ≤ rest.length + 1
  · rw [if_pos hk, isFirstChild_node h, bind_ok]
    by_cases hf : i % kids (r + 1) = 0
    · rw [decide_eq_true hf, if_pos rfl, getStride_eq (Nat.le_of_succ_le_succ h.1), bind_ok]
      exact ⟨_, rfl, by rw [siblingsFollow_iff]; exact ⟨fun hp => ⟨hf, hp⟩, fun hp => hp.2⟩⟩
    · rw [decide_eq_false hf, if_neg Bool.false_ne_true]
      exact ⟨false, rfl, ⟨fun hb => absurd hb Bool.false_ne_true, fun hp => absurd hp.1 hf⟩⟩
  · rw [if_neg hk]
    refine ⟨false, rfl, ⟨fun hb => absurd hb Bool.false_ne_true, fun hp => ?_⟩⟩
    have := hp.2.length_le
    rw [sibs_length] at this
    exact absurd (Nat.le_add_of_sub_le this) hk

theorem coveredBy_sibs {c s k x : Nat} (hk : 0 < k) :
    (Covers c x ∨ CoveredBy (sibs c s k) x) ↔ ∃ j, j < k ∧ Covers (c + j * s) x := by
  constructor
  · rintro (h | ⟨z, hz, h⟩)
    · exact ⟨0, hk, by rwa [Nat.zero_mul]⟩
    · obtain ⟨j, hj, rfl⟩ := List.mem_map.1 hz
      exact ⟨j + 1, Nat.add_lt_of_lt_sub (List.mem_range.1 hj), h⟩
  · rintro ⟨j, hj, h⟩
    cases j with
    | zero => exact Or.inl (by rwa [Nat.zero_mul] at h)
    | succ j => exact Or.inr ⟨_, List.mem_map.2 ⟨j, List.mem_range.2 (Nat.lt_sub_of_add_lt hj), rfl⟩, h⟩

/-- What one `while i < len(current_cells)` pass does, step by step: a cell for which `has_all_siblings` is false (and
    the world cell) is kept; a first child followed by its siblings is replaced, together with them, by the parent. -/
inductive Scan : List Nat → List Nat → Bool → Prop
  | nil : Scan [] [] false
  | keep {c : Nat} {rest out : List Nat} {ch : Bool} :
      (0 ≤ getResolution c → hasAllSiblings c (getResolution c) rest = .ok false) →
      Scan rest out ch → Scan (c :: rest) (c :: out) ch
  | merge {c : Nat} {r : Int} {k s p : Nat} {rest out : List Nat} {ch : Bool} :
      MergeInfo c r k s p → MergeSpans c k s p →
      Scan rest out ch → Scan (c :: (sibs c s k ++ rest)) (p :: out) true

theorem scanPass_scan (cur : List Nat) (hval : ∀ c, c ∈ cur → ValidId c) :
    ∃ out ch, scanPass cur = .ok (out, ch) ∧ Scan cur out ch := by
  induction cur using scanPass.induct with
  | case1 => exact ⟨[], false, by rw [scanPass], .nil⟩
  | case2 c rest r hr ih =>
    obtain ⟨out, ch, hs, hsc⟩ := ih fun x hx => hval x (List.mem_cons_of_mem _ hx)
    rw [scanPass, if_pos hr, hs, bind_ok]
    exact ⟨_, _, rfl, .keep (fun h0 => absurd hr (Int.not_lt.2 h0)) hsc⟩
  | case3 c rest r hr ihm ih =>
    obtain ⟨out, ch, hs, hsc⟩ := ih fun x hx => hval x (List.mem_cons_of_mem _ hx)
    obtain ⟨_ | r', i, nc, rfl⟩ := validId_iff_node.1 (hval c List.mem_cons_self)
    · exact absurd (getResolution_zero.trans_lt (by decide)) hr
    have hres := getResolution_node_succ nc
    obtain ⟨b, hb, hbt⟩ := hasAll_node nc rest
    simp only [r] at ihm
    rw [scanPass, if_neg hr, hres, hb, bind_ok]
    cases b with
    | false =>
      rw [if_neg Bool.false_ne_true, hs, bind_ok]
      exact ⟨_, _, rfl, .keep (fun _ => hres ▸ hb) hsc⟩
    | true =>
      obtain ⟨hf, rest', rfl⟩ := hbt.1 rfl
      obtain ⟨mi, ms⟩ := merge_group nc hf
      rw [hres, expectedChildren_eq, List.drop_left' (sibs_length _ _ _)] at ihm
      obtain ⟨out', ch', hs', hsc'⟩ := ihm fun x hx => hval x (List.mem_cons_of_mem _ (List.mem_append_right _ hx))
      rw [if_pos rfl, mi.parent, bind_ok, expectedChildren_eq, List.drop_left' (sibs_length _ _ _), hs', bind_ok]
      exact ⟨_, _, rfl, .merge mi ms hsc'⟩

theorem Scan.allValid {R : Nat} {cur out : List Nat} {ch : Bool} (h : Scan cur out ch) (hv : AllValid R cur) :
    AllValid R out := by
  induction h with
  | nil => exact hv
  | keep _ _ ih =>
    rw [allValid_cons] at hv ⊢
    exact ⟨hv.1, ih hv.2⟩
  | merge mi _ _ ih =>
    rw [allValid_cons, allValid_append, mi.res_eq] at hv
    rw [allValid_cons, mi.parent_res]
    exact ⟨⟨mi.parent_valid, Int.le_trans (Int.sub_le_self _ (by decide)) hv.1.2⟩, ih hv.2.2⟩

theorem Scan.covered {R : Nat} {cur out : List Nat} {ch : Bool} (h : Scan cur out ch) (hv : AllValid R cur)
    {x : Nat} (hx : ValidId x) (hr : getResolution x = (R : Int)) : CoveredBy out x ↔ CoveredBy cur x := by
  induction h with
  | nil => rfl
  | keep _ _ ih => rw [coveredBy_cons, coveredBy_cons, ih (allValid_cons.1 hv).2]
  | merge mi _ _ ih =>
    rw [allValid_cons, allValid_append, mi.res_eq] at hv
    rw [coveredBy_cons, coveredBy_cons, coveredBy_append, ih hv.2.2, mi.cover x hx (hv.1.2.trans_eq hr.symm), ← or_assoc,
      coveredBy_sibs (Nat.lt_of_lt_of_le (by decide) mi.four_le)]

theorem loop_spec (Q : List Nat → Prop) (hv : ∀ l, Q l → ∀ c, c ∈ l → ValidId c)
    (hQ : ∀ cur out ch, Q cur → Scan cur out ch → Q out) :
    ∀ (fuel : Nat) (cur : List Nat), cur.length < fuel → Q cur →
      ∃ out, compactLoop fuel cur = .ok out ∧ Q out ∧ Scan out out false := by
  intro fuel
  induction fuel with
  | zero => exact fun cur h => absurd h (Nat.not_lt_zero _)
  | succ fuel ih =>
    intro cur hlen hq
    obtain ⟨out, ch, hs, hsc⟩ := scanPass_scan cur (hv cur hq)
    rw [compactLoop, hs, ok_bind]
    cases ch with
    | false =>
      obtain rfl := (scanPass_length cur out false hs).2.2 rfl
      exact ⟨out, rfl, hq, hsc⟩
    | true =>
      exact ih out (Nat.lt_of_lt_of_le ((scanPass_length cur out true hs).2.1 rfl) (Nat.le_of_lt_succ hlen))
        (hQ cur out true hq hsc)

theorem compact_spec (Q : List Nat → Prop) (hv : ∀ l, Q l → ∀ c, c ∈ l → ValidId c)
    (hQ : ∀ cur out ch, Q cur → Scan cur out ch → Q out) (X : List Nat) (h0 : Q (sortedSet hierarchicalKey X)) :
    ∃ Y, compact X = .ok Y ∧ Q Y ∧ Scan Y Y false := by
  unfold compact
  split
  · obtain rfl : X = [] := List.isEmpty_iff.1 ‹_›
    exact ⟨[], rfl, h0, .nil⟩
  · exact loop_spec Q hv hQ _ _ (Nat.lt_succ_self _) h0

def SameCover (R : Nat) (X Y : List Nat) : Prop :=
  AllValid R Y ∧ ∀ x, ValidId x → getResolution x = (R : Int) → (CoveredBy Y x ↔ CoveredBy X x)

theorem SameCover.scan {R : Nat} {X cur out : List Nat} {ch : Bool} (h : SameCover R X cur) (hs : Scan cur out ch) :
    SameCover R X out :=
  ⟨hs.allValid h.1, fun x hx hr => (hs.covered h.1 hx hr).trans (h.2 x hx hr)⟩

theorem sameCover_sortedSet {R : Nat} {X : List Nat} (hval : AllValid R X) : SameCover R X (sortedSet hierarchicalKey X) :=
  ⟨fun c hc => hval c ((mem_sortedSet _ _ _).1 hc), fun _ _ _ => exists_congr fun _ => and_congr_left' (mem_sortedSet _ _ _)⟩

theorem compact_covered (R : Nat) (X : List Nat) (hval : AllValid R X) : ∃ Y, compact X = .ok Y ∧ SameCover R X Y := by
  obtain ⟨Y, h1, h2, _⟩ := compact_spec (SameCover R X) (fun l h c hc => (h.1 c hc).1) (fun _ _ _ h hs => h.scan hs) X
    (sameCover_sortedSet hval)
  exact ⟨Y, h1, h2⟩

end A5
