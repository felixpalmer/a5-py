/-
  C07 (`centroid_step`): every parent → child step of the real index → anchor function, at every level and for every orientation, is
  one of the 192 table steps: the centroid of the child cell differs from the centroid of the parent cell by `rot · δ / 2^n` with
  |δ|² ≤ 0.46² · (unit cell area).
  By `parent_child_core` (HilbertRT) the cells of an index and of its parent index (s / 4) share everything except the last step of the
  digit transducer.  Hence the two anchors are the table's two anchors moved by a lattice vector `w` (parent) and `2w` (child):
  `anchorOf` and the orientation wrapper both commute with such moves.
-/
import A5.Proofs.DriftTable
import A5.Proofs.HilbertOrient

namespace A5.Planar
open A5.Hilbert

theorem anchorOf_shift (base : Int × Int) (f : Flips) (ds : List Nat) :
    anchorOf base f ds = (anchorOf (0, 0) f ds).shift ((base.1 - base.2) * 2 ^ ds.length, base.2 * 2 ^ ds.length) := by
  unfold anchorOf Anchor.shift
  rw [accumulate_off]
  simp only [kjToIj, Anchor.mk.injEq, and_true, true_and]
  constructor <;> ring

/-- `unwrapPt` on a lattice point -/
def wshift (inv flip : Bool) (n : Nat) (w : Int × Int) : Int × Int :=
  let w := if flip then (w.2, w.1) else w
  if inv then (w.1, 2 ^ n - (w.1 + w.2)) else w

/-- the flip shift depends on the flips alone, and the `2^n` of `invert_j` goes into `wshift`; `wrap0` is the wrapper without it -/
theorem wrapN_shift (inv flip : Bool) (n : Nat) (a : Anchor) (w : Int × Int) :
    wrapN inv flip n (a.shift w) = (wrap0 inv flip a).shift (wshift inv flip n w) := by
  -- the wrapper is the swap stage followed by the inversion stage (the `show` below, by unfolding); each commutes with shifts on its own
  have swap : ∀ (a : Anchor) (w : Int × Int), wrapN false flip n (a.shift w) = (wrap0 false flip a).shift (wshift false flip n w) := by
    rintro ⟨k, i, j, fx, fy⟩ ⟨w1, w2⟩
    cases flip
    · rfl
    · cases fx <;> cases fy <;>
        simp only [wrapN, wrap0, wshift, Anchor.shift, if_true, if_false, Bool.false_eq_true, Anchor.mk.injEq, true_and, and_true]
      all_goals omega
  have invert : ∀ (a : Anchor) (w : Int × Int), wrapN inv false n (a.shift w) = (wrap0 inv false a).shift (wshift inv false n w) := by
    rintro ⟨k, i, j, f⟩ ⟨w1, w2⟩
    cases inv
    · rfl
    · simp only [wrapN, wrap0, wshift, Anchor.shift, if_true, if_false, Bool.false_eq_true, Anchor.mk.injEq, true_and, and_true]
      ring
  show wrapN inv false n (wrapN false flip n (a.shift w)) =
    (wrap0 inv false (wrap0 false flip a)).shift (wshift inv false n (wshift false flip n w))
  rw [swap, invert]

theorem wshift_double (inv flip : Bool) (n : Nat) (w₁ w₂ : Int) :
    wshift inv flip (n + 1) (2 * w₁, 2 * w₂) = (2 * (wshift inv flip n (w₁, w₂)).1, 2 * (wshift inv flip n (w₁, w₂)).2) := by
  cases inv <;> cases flip <;> simp only [wshift, Bool.false_eq_true, ↓reduceIte, Prod.mk.injEq, true_and]
  all_goals ring

theorem centroid_step (o : String) (n : Nat) (hn : 0 < n) (s : Nat) (hs : s < 4 ^ (n + 1)) (ac ap : Anchor)
    (hc : sToAnchor s (n + 1) o = .ok ac) (hp : sToAnchor (s / 4) n o = .ok ap) :
    ∃ δ : ℚ × ℚ, normsq δ ≤ kappa2 * unitArea ∧ ∀ rot : ℚ × ℚ × ℚ × ℚ,
      cen (place baseQ basisQ slQ srQ rot (n + 1) ac) - cen (place baseQ basisQ slQ srQ rot n ap)
        = applyMat rot (δ.1 / 2 ^ n, δ.2 / 2 ^ n) := by
  have hs4 := div_four_lt hs
  rw [sToAnchor_eq s (n + 1) o hs] at hc
  rw [sToAnchor_eq (s / 4) n o hs4, revIdx_div _ n s hs] at hp
  obtain ⟨base, f, P, c, hP, hc4, hpar, hchild⟩ :=
    parent_child_core n _ hn (revIdx_lt (orientReverse o) (n + 1) s hs) (orientInvertJ o) (orientFlipIJ o)
  rw [hchild, anchorOf_shift, wrapN_shift] at hc
  rw [hpar, anchorOf_shift, wrapN_shift] at hp
  cases Except.ok.inj hc
  cases Except.ok.inj hp
  refine ⟨tableδ (orientInvertJ o) (orientFlipIJ o) f P c,
    table_bound _ _ f.1 f.2 ⟨P, hP⟩ ⟨c, hc4⟩ (by simpa using never_both o), fun rot => ?_⟩
  -- `anchorOf_shift` moves by `base · 2 ^ ds.length`: `w = base · 2 ^ 1` for the parent's `[P]`, `base · 2 ^ 2 = 2w` for the child's `[r.1, r.2]`
  rw [List.length_cons, List.length_cons, List.length_nil, pow_succ' _ (0 + 1), mul_left_comm _ 2, mul_left_comm _ 2, wshift_double]
  exact cen_diff baseQ baseQ_length basisQ slQ srQ rot n _ _ _

end A5.Planar
