/-
  The orientation wrapper of `s_to_anchor` / `ij_to_s`, said once: `s_to_anchor` is the core at the (possibly reversed) index followed by
  `wrapN`; `ij_to_s` is `unwrapPt`, the core, and the index reversed back; a point lies in the cell of the wrapped anchor iff the point
  `ij_to_s` hands to the core lies in the cell of the core's anchor; and the segment triangle is symmetric under `unwrapPt`.
-/
import A5.Proofs.HilbertRT

namespace A5.Hilbert
open A5.Planar (sc_add sc_sub sc_ofInt)

theorem orient_flags :
    (orientReverse "uv", orientInvertJ "uv", orientFlipIJ "uv") = (false, false, false) ∧
    (orientReverse "vu", orientInvertJ "vu", orientFlipIJ "vu") = (true, false, false) ∧
    (orientReverse "uw", orientInvertJ "uw", orientFlipIJ "uw") = (false, false, true) ∧
    (orientReverse "wu", orientInvertJ "wu", orientFlipIJ "wu") = (true, false, true) ∧
    (orientReverse "vw", orientInvertJ "vw", orientFlipIJ "vw") = (true, true, false) ∧
    (orientReverse "wv", orientInvertJ "wv", orientFlipIJ "wv") = (false, true, false) := by decide

theorem never_both (o : String) : ¬ (orientInvertJ o = true ∧ orientFlipIJ o = true) := by
  simp only [orientInvertJ, orientFlipIJ, Bool.or_eq_true, beq_iff_eq]
  rintro ⟨rfl | rfl, h⟩ <;> revert h <;> decide

def revIdx (rev : Bool) (n s : Nat) : Nat := if rev then 4 ^ n - 1 - s else s

theorem revIdx_lt (rev : Bool) (n s : Nat) (hs : s < 4 ^ n) : revIdx rev n s < 4 ^ n := by
  unfold revIdx
  split <;> omega

theorem revIdx_revIdx (rev : Bool) (n s : Nat) (hs : s < 4 ^ n) : revIdx rev n (revIdx rev n s) = s := by
  unfold revIdx
  split <;> omega

theorem revIdx_div (rev : Bool) (n s : Nat) (hs : s < 4 ^ (n + 1)) : revIdx rev n (s / 4) = revIdx rev (n + 1) s / 4 := by
  unfold revIdx
  rw [Nat.pow_succ] at *
  split <;> omega

/-- the reversal as the code writes it, in integers -/
theorem revIdx_cast (rev : Bool) (n s : Nat) (hs : s < 4 ^ n) :
    (if rev then (4 ^ n : Int) - s - 1 else s) = (revIdx rev n s : Nat) := by
  have h4 : ((4 ^ n : Nat) : Int) = 4 ^ n := Int.natCast_pow 4 n
  unfold revIdx
  split <;> omega

/-- what `s_to_anchor` does to the core's anchor at level n; `(-1, 1)` is `Tables.FLIP_SHIFT` by value (`flip_shift_eq`, decided on
    the generated table each run) -/
def wrapN (inv flip : Bool) (n : Nat) (a : Anchor) : Anchor :=
  let a :=
    if flip then
      let i := a.j
      let j := a.i
      let (i, j) := if a.flips.1 then (i + (-1), j + 1) else (i, j)
      let (i, j) := if a.flips.2 then (i - (-1), j - 1) else (i, j)
      { a with i := i, j := j }
    else a
  if inv then { a with j := (2 ^ n : Int) - (a.i + a.j), flips := (!a.flips.1, a.flips.2) } else a

theorem wrapN_k (inv flip : Bool) (n : Nat) (a : Anchor) : (wrapN inv flip n a).k = a.k := by
  cases inv <;> cases flip <;> rfl

theorem sToAnchor_eq (s n : Nat) (o : String) (hs : s < 4 ^ n) :
    sToAnchor s n o = .ok (wrapN (orientInvertJ o) (orientFlipIJ o) n
      (sToAnchorCore (revIdx (orientReverse o) n s) n (orientInvertJ o) (orientFlipIJ o))) := by
  simp only [sToAnchor, wrapN, flip_shift_eq, if_false, revIdx_cast _ n s hs, if_neg (Int.not_lt.2 (Int.natCast_nonneg _)),
    Int.toNat_natCast]

theorem anchor_k_lt (o : String) (n s : Nat) (hs : s < 4 ^ n) (a : Anchor) (ha : sToAnchor s n o = .ok a) : a.k < 4 := by
  rw [sToAnchor_eq s n o hs] at ha
  obtain rfl := Except.ok.inj ha
  rw [wrapN_k, sToAnchorCore_eq]
  exact anchorOf_k_lt _ _ _ (shiftAll_digits_spec _ _ (revIdx_lt _ n s hs)).1

def unwrapPt (inv flip : Bool) (n : Nat) (p : ℚ × ℚ) : ℚ × ℚ :=
  let p := if flip then (p.2, p.1) else p
  if inv then (p.1, 2 ^ n - (p.1 + p.2)) else p

theorem ijToS_eq (x y : ℚ) (n : Nat) (o : String) :
    ijToS x y n o = (revIdx (orientReverse o) n
      (ijToSCore (unwrapPt (orientInvertJ o) (orientFlipIJ o) n (x, y)).1 (unwrapPt (orientInvertJ o) (orientFlipIJ o) n (x, y)).2
        (orientInvertJ o) (orientFlipIJ o) n) : Nat) := by
  rw [← revIdx_cast _ n _ (ijToSCore_lt _ _ _ _ n)]
  unfold ijToS unwrapPt
  simp only [sc_sub, sc_add, sc_ofInt, Int.cast_pow, Int.cast_ofNat]
  cases orientInvertJ o <;> cases orientFlipIJ o <;> rfl

theorem unwrapPt_seg (inv flip : Bool) (n : Nat) (x y : ℚ) :
    (Tri (false, false) (2 ^ n) (unwrapPt inv flip n (x, y)).1 (unwrapPt inv flip n (x, y)).2 ↔ Tri (false, false) (2 ^ n) x y) ∧
    (TriC (false, false) (2 ^ n) (unwrapPt inv flip n (x, y)).1 (unwrapPt inv flip n (x, y)).2 ↔ TriC (false, false) (2 ^ n) x y) := by
  cases inv <;> cases flip <;> simp only [unwrapPt, Tri, TriC, if_true, if_false, Bool.false_eq_true, iff_self, and_self]
  · rw [and_left_comm, add_comm y x, and_left_comm (a := 0 ≤ y)]          -- the swap alone: the same inequalities in another order
    exact ⟨Iff.rfl, Iff.rfl⟩
  all_goals
    refine ⟨⟨?_, ?_⟩, ⟨?_, ?_⟩⟩ <;> rintro ⟨h1, h2, h3⟩
    all_goals refine ⟨?_, ?_, ?_⟩ <;> linarith

/-- FLIP_SHIFT enters once per YES flip, with opposite signs -/
def flipShift (f : Flips) : ℚ := (if f.1 then 1 else 0) - (if f.2 then 1 else 0)

theorem tri_swap (f : Flips) (u v : ℚ) :
    (Tri f 1 (v + flipShift f) (u - flipShift f) ↔ Tri f 1 u v) ∧ (TriC f 1 (v + flipShift f) (u - flipShift f) ↔ TriC f 1 u v) := by
  -- the move is an involution: one direction, taken at both points
  have key (u v : ℚ) : (Tri f 1 u v → Tri f 1 (v + flipShift f) (u - flipShift f)) ∧
      (TriC f 1 u v → TriC f 1 (v + flipShift f) (u - flipShift f)) := by
    obtain ⟨fx, fy⟩ := f
    cases fx <;> cases fy <;> simp only [Tri, TriC, flipShift, if_true, if_false, Bool.false_eq_true]
    all_goals
      constructor <;> rintro ⟨h1, h2, h3⟩
      all_goals refine ⟨?_, ?_, ?_⟩ <;> linarith
  have back := key (v + flipShift f) (u - flipShift f)
  rw [sub_add_cancel, add_sub_cancel_right] at back
  exact ⟨⟨back.1, (key u v).1⟩, back.2, (key u v).2⟩

theorem loc_invert (f : Flips) (u v : ℚ) : loc (!f.1, f.2) (u, v) = loc f (u, -u - v) := by
  obtain ⟨fx, fy⟩ := f
  cases fx <;> cases fy <;> simp only [loc, Bool.not_true, Bool.not_false] <;> ext <;> simp only <;> ring

theorem wrapN_flip (n : Nat) (c : Anchor) :
    ((wrapN false true n c).i : ℚ) = c.j - flipShift c.flips ∧ ((wrapN false true n c).j : ℚ) = c.i + flipShift c.flips ∧
      (wrapN false true n c).flips = c.flips := by
  obtain ⟨k, i, j, fx, fy⟩ := c
  cases fx <;> cases fy <;> simp only [wrapN, flipShift, Bool.false_eq_true, ↓reduceIte, and_true]
  all_goals exact ⟨by push_cast; ring, by push_cast; ring⟩

theorem wrapN_invert (n : Nat) (c : Anchor) :
    ((wrapN true false n c).i : ℚ) = c.i ∧ ((wrapN true false n c).j : ℚ) = 2 ^ n - (c.i + c.j) ∧
      (wrapN true false n c).flips = (!c.flips.1, c.flips.2) := by
  simp [wrapN]

/-- `hnot`: `s_to_anchor` swaps, then inverts; to undo that the point would have to be inverted first, but `ij_to_s` swaps first as
    well, and the two moves do not commute -/
theorem wrapN_tri (inv flip : Bool) (hnot : ¬ (inv = true ∧ flip = true)) (n : Nat) (c : Anchor) (x y : ℚ) :
    let a := wrapN inv flip n c
    let p := unwrapPt inv flip n (x, y)
    (Tri a.flips 1 (x - a.i) (y - a.j) ↔ Tri c.flips 1 (p.1 - c.i) (p.2 - c.j)) ∧
      (TriC a.flips 1 (x - a.i) (y - a.j) ↔ TriC c.flips 1 (p.1 - c.i) (p.2 - c.j)) := by
  intro a p
  cases inv <;> cases flip
  · exact ⟨Iff.rfl, Iff.rfl⟩
  · obtain ⟨ei, ej, ef⟩ := wrapN_flip n c
    rw [ei, ej, ef, ← sub_add, sub_add_eq_sub_sub]
    exact tri_swap _ _ _
  · obtain ⟨ei, ej, ef⟩ := wrapN_invert n c
    rw [ei, ej, ef, Tri_iff, TriC_iff, loc_invert, Tri_iff, TriC_iff]
    have e : -(x - ↑c.i) - (y - (2 ^ n - (↑c.i + ↑c.j))) = (unwrapPt true false n (x, y)).2 - (c.j : ℚ) := by
      simp only [unwrapPt, if_true, Bool.false_eq_true, if_false]
      ring
    rw [e]
    exact ⟨Iff.rfl, Iff.rfl⟩
  · exact absurd ⟨rfl, rfl⟩ hnot

theorem anchor_cell (o : String) (n s : Nat) (hs : s < 4 ^ n) (a : Anchor) (ha : sToAnchor s n o = .ok a) (x y : ℚ) :
    let c := sToAnchorCore (revIdx (orientReverse o) n s) n (orientInvertJ o) (orientFlipIJ o)
    let p := unwrapPt (orientInvertJ o) (orientFlipIJ o) n (x, y)
    (Tri a.flips 1 (x - a.i) (y - a.j) ↔ Tri c.flips 1 (p.1 - c.i) (p.2 - c.j)) ∧
      (TriC a.flips 1 (x - a.i) (y - a.j) ↔ TriC c.flips 1 (p.1 - c.i) (p.2 - c.j)) := by
  rw [sToAnchor_eq s n o hs] at ha
  obtain rfl := Except.ok.inj ha
  exact wrapN_tri _ _ (never_both o) n _ x y

end A5.Hilbert
