/-
  C07: the finite one-step table.  δ (parent centroid → child centroid, in parent lattice units, before rotation) depends only on the
  orientation class (the flags `inv`, `flip` below), the flip state, the pending digit and the new digit: 3 × 4 × 4 × 4 = 192 cases,
  each evaluated in exact rational arithmetic on the exact values of the implementation's double constants (regenerated from /repo on
  every run) and bounded by the kernel.  The orientation class is what the geometry sees of the orientation: the pair (`invert_j`,
  `flip_ij`), of which three occur (neither, `invert_j` alone, `flip_ij` alone); `reverse` only changes the index handed to the core.
-/
import A5.Proofs.DriftGeo
import A5.Proofs.HilbertG
import A5.Proofs.PlanarConst

namespace A5.Planar
open A5.Hilbert

/-- the orientation wrapper of `s_to_anchor` with its level-dependent constant (2^n in `invert_j`) dropped (`wrapN_shift` in Drift
    relates it to the wrapper itself); `(-1, 1)` is `Tables.FLIP_SHIFT` by value (`flip_shift_eq`) -/
def wrap0 (inv flip : Bool) (a : Anchor) : Anchor :=
  let a :=
    if flip then
      let i := a.j
      let j := a.i
      let (i, j) := if a.flips.1 then (i + (-1), j + 1) else (i, j)
      let (i, j) := if a.flips.2 then (i - (-1), j - 1) else (i, j)
      { a with i := i, j := j }
    else a
  if inv then { a with j := -(a.i + a.j), flips := (!a.flips.1, a.flips.2) } else a

def normsq (v : ℚ × ℚ) : ℚ := v.1 ^ 2 + v.2 ^ 2

/-- δ of one step: half the child's position minus the parent's, both anchors taken at base (0, 0) in flip state `f`, `P` the pending
    digit and `c` the new one -/
def tableδ (inv flip : Bool) (f : Flips) (P c : Nat) : ℚ × ℚ :=
  let pat := if flip then PATTERN_FLIPPED else PATTERN
  let r := shiftStep pat inv f P c
  let ac := wrap0 inv flip (anchorOf (0, 0) f [r.1, r.2])
  let ap := wrap0 inv flip (anchorOf (0, 0) f [P])
  ((posOf baseQ basisQ slQ srQ ac.flips ac.k ac.i ac.j).1 / 2 - (posOf baseQ basisQ slQ srQ ap.flips ap.k ap.i ap.j).1,
   (posOf baseQ basisQ slQ srQ ac.flips ac.k ac.i ac.j).2 / 2 - (posOf baseQ basisQ slQ srQ ap.flips ap.k ap.i ap.j).2)

def unitArea : ℚ := area (mkShape baseQ)

/-- κ² = 0.46² : squared one-step drift bound in parent widths.  The width of a cell at level n is `√unitArea / 2 ^ n`; `tableδ` is in
    the lattice units of the parent's level, where that is `√unitArea`, so the table's bound reads `normsq δ ≤ kappa2 * unitArea`. -/
def kappa2 : ℚ := (46 / 100) ^ 2

/-- the hypothesis: no orientation has both `invert_j` and `flip_ij` -/
theorem table_bound : ∀ (inv flip f1 f2 : Bool) (P c : Fin 4), (inv && flip) = false →
    normsq (tableδ inv flip (f1, f2) P.val c.val) ≤ kappa2 * unitArea := by
  decide +kernel

/-- the bound is nearly attained (so the table is not vacuous): some step moves the centroid by more than 0.45 parent widths.
    `cls` is the orientation class: 0 neither flag, 1 `invert_j`, 2 `flip_ij`. -/
theorem table_attained : ∃ (cls : Fin 3) (f1 f2 : Bool) (P c : Fin 4),
    (45 / 100) ^ 2 * unitArea < normsq (tableδ (cls == 1) (cls == 2) (f1, f2) P.val c.val) := by
  decide +kernel

end A5.Planar
