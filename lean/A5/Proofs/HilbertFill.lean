/-
  C18, "exactly fill": every point of the closed segment triangle of side 2^n lies in the closed unit triangle of the lattice cell of some
  index s < 4^n (for every level n).  The witness is the index that `ij_to_s` computes; the proof runs the decoding loop on closed triangles
  and inverts the digit transducer in the other direction.
-/
import A5.Proofs.HilbertRT
import Mathlib.Data.List.Induction

namespace A5.Hilbert

/-- on an edge shared by two children the test picks one -/
theorem parent_region (f : Flips) (s u v : ℚ) (hs : 0 < s) (h : TriC f (2 * s) u v) :
    TriC (fmul f (qflips (ijToQuaternary (u / s) (v / s) f))) s
      (u - (childQ (ijToQuaternary (u / s) (v / s) f) f).1 * s) (v - (childQ (ijToQuaternary (u / s) (v / s) f) f).2 * s) := by
  rw [TriC_iff] at h
  rw [TriC_iff, loc_fmul, quat_loc f s u v hs, loc_child]
  generalize loc f (u, v) = w at h ⊢
  obtain ⟨h1, h2, h3⟩ := h
  unfold digit0
  split_ifs with c1 c2 c3
  all_goals simp only [qflips_zero, qflips_one, qflips_two, qflips_three, child0, loc, zero_mul, one_mul, sub_zero]
  · exact ⟨h1, h2, c1.le⟩
  all_goals refine ⟨?_, ?_, ?_⟩ <;> linarith

theorem decode_closed : ∀ (n : Nat) (f : Flips) (px py x y : ℚ), TriC f (2 ^ n) (x - px) (y - py) →
    TriC (anchorOf (0, 0) f (decodeDigits n x y px py f)).flips 1
      (x - px - (anchorOf (0, 0) f (decodeDigits n x y px py f)).i) (y - py - (anchorOf (0, 0) f (decodeDigits n x y px py f)).j)
  | 0, f, px, py, x, y, h => by simpa [decodeDigits, anchorOf_nil] using h
  | n + 1, f, px, py, x, y, h => by
    rw [pow_succ'] at h
    have hreg := parent_region f _ _ _ (by positivity) h
    rw [decodeDigits_succ rfl]
    generalize ijToQuaternary ((x - px) / 2 ^ n) ((y - py) / 2 ^ n) f = d at hreg ⊢
    rw [sub_sub, sub_sub] at hreg
    have ih := decode_closed n (fmul f (qflips d)) _ _ x y hreg
    obtain ⟨ei, ej, ef⟩ := anchorOf_cons f d (decodeDigits n x y (px + (childQ d f).1 * 2 ^ n) (py + (childQ d f).2 * 2 ^ n) (fmul f (qflips d)))
    rw [(decodeDigits_spec n _ _ _ _ _).1] at ei ej
    rw [← sub_sub, ← sub_sub y] at ih
    rw [ei, ej, ef, sub_add_eq_sub_sub, sub_add_eq_sub_sub (y - py)]
    exact ih

theorem digits_value (ds : List Nat) (h : ∀ d ∈ ds, d < 4) : digitsMSB (valueMSB ds) ds.length = ds := by
  induction ds using List.reverseRecOn with
  | nil => rfl
  | append_singleton xs d ih =>
    have hxs := (List.forall_mem_append.1 h).1
    have hd : d < 4 := h d (by simp)
    have hx := valueMSB_lt xs hxs
    rw [valueMSB_append, List.length_append, List.length_singleton, digitsMSB_succ _ _ (by rw [Nat.pow_succ]; omega),
      show (4 * valueMSB xs + d) / 4 = valueMSB xs by omega, ih hxs, show (4 * valueMSB xs + d) % 4 = d by omega]

theorem fill_core (n : Nat) (inv flip : Bool) (x y : ℚ) (h : TriC (false, false) (2 ^ n) x y) :
    TriC (sToAnchorCore (ijToSCore x y inv flip n) n inv flip).flips 1
      (x - (sToAnchorCore (ijToSCore x y inv flip n) n inv flip).i) (y - (sToAnchorCore (ijToSCore x y inv flip n) n inv flip).j) := by
  have hc := decode_closed n (false, false) 0 0 x y (by simpa using h)
  obtain ⟨d1, d2⟩ := decodeDigits_spec n x y (0:ℚ) 0 (false, false)
  rw [sToAnchorCore_eq]
  simp only [ijToSCore, Planar.sc_ofInt, Int.cast_zero]
  generalize decodeDigits n x y (0:ℚ) 0 (false, false) = sd at *
  obtain ⟨u2, u3⟩ := unshiftAll_spec (reversePattern (if flip then PATTERN_FLIPPED else PATTERN)) inv sd d2
  have v2 := digits_value _ u2
  rw [u3, d1] at v2
  rw [v2, shift_unshift (step_inv flip inv).2 sd d2]
  simpa using hc

end A5.Hilbert
