/-
  Decision logic of `lonlat_to_cell` on the executable model: whatever the floating-point values, a returned id is a valid
  id of exactly the requested resolution, and at Hilbert resolutions the code of the estimate of one of the sampled points, scored
  with the library's containment test for the query point.
-/
import A5.Model.CellGeo
import A5.Proofs.Codec
import A5.Proofs.HilbertDigits

-- powers with a `Nat` exponent stay on the core instance, see Proofs/Bits.lean; `Est.WF` states its `(4 : Int) ^ n` that way
attribute [local instance 2000] instPowNat

namespace A5.CellGeo
open A5.F A5.Geo A5.Hilbert

theorem findNearestOrigin_lt (p : V2) : findNearestOrigin p < 12 := by
  unfold findNearestOrigin
  refine List.foldlRecOn (motive := fun acc : Float × Nat => acc.2 < 12) _ _ (by decide) fun acc hacc o ho => ?_
  dsimp only
  split
  · exact List.mem_range.1 ho
  · exact hacc

def Est.WF (e : Est) (r : Int) : Prop :=
  e.origin < 12 ∧ (0 ≤ e.segment ∧ e.segment < 5) ∧ e.res = r ∧ (r < 2 → e.S = 0) ∧ (2 ≤ r → 0 ≤ e.S ∧ e.S < (4 : Int) ^ (r - 1).toNat)

theorem estimate_wf (ll : V2) (r : Int) (e : Est) (h : lonlatToEstimate ll r = .ok e) : e.WF r := by
  unfold lonlatToEstimate at h
  simp only [FHR_eq] at h
  obtain ⟨dp, _, h⟩ := bind_eq_ok h
  have ho := findNearestOrigin_lt (fromLonLat ll)
  generalize findNearestOrigin (fromLonLat ll) = o at *
  have hseg : ∀ q : Int, 0 ≤ (quintantToSegment q o).1 ∧ (quintantToSegment q o).1 < 5 :=
    fun q => ⟨Int.emod_nonneg _ (by decide), Int.emod_lt_of_pos _ (by decide)⟩
  by_cases hr : r < 2
  · simp only [hr, if_true] at h
    have := Except.ok.inj h
    subst this
    exact ⟨ho, hseg _, rfl, fun _ => rfl, fun h2 => absurd hr (Int.not_lt.2 h2)⟩
  · simp only [hr, if_false] at h
    have := Except.ok.inj h
    subst this
    refine ⟨ho, hseg _, rfl, fun h2 => absurd h2 hr, fun _ => ?_⟩
    rw [show (r - 1).toNat = (1 + r - 2).toNat from congrArg Int.toNat (by omega)]
    exact ijToS_range _ _ _ _

theorem serialize_estimate {e : Est} {r : Int} {n : Nat} (hw : e.WF r) (hr0 : 0 ≤ r) (hr : r ≤ 29)
    (hn : serialize e.toCell = .ok n) : ValidId n ∧ getResolution n = r := by
  obtain ⟨ho, hs, rfl, h0, h2⟩ := hw
  have hp : 0 ≤ e.S ∧ e.S.toNat < npos e.res.toNat := by
    rw [npos_pow]
    by_cases h : e.res < 2
    · rw [h0 h]
      exact ⟨Int.le_refl 0, Nat.pow_pos (by decide)⟩
    · obtain ⟨hS0, hS⟩ := h2 (Int.not_lt.1 h)
      rw [← Int.toNat_sub' e.res 1, Int.toNat_lt hS0, Int.natCast_pow]
      exact ⟨hS0, hS⟩
  obtain ⟨t, S, r, hwf, hr', hs, -⟩ := serialize_valid e.toCell ⟨ho, hs, ⟨hr0, hr⟩, hp⟩
  rw [hs] at hn
  cases hn
  exact ⟨Or.inr ⟨t, S, r, hwf, rfl⟩, (getResolution_encId hwf).trans hr'.symm⟩

/-- `c` is the estimate of one of the points `pts`, paired with its score for the query point `ll` -/
def Scored (ll : V2) (r : Int) (pts : List V2) (c : Est × Float) : Prop :=
  (∃ s ∈ pts, lonlatToEstimate s r = .ok c.1) ∧ cellContainsPoint c.1.toCell ll = .ok c.2

theorem searchLoop_spec (ll : V2) (r : Int) (pts : List V2) : ∀ (todo : List V2) (seen : List Nat)
    (cells : List (Est × Float)) (res : Sum Nat (List (Est × Float))), (∀ s ∈ todo, s ∈ pts) →
    (∀ c ∈ cells, Scored ll r pts c ∧ ¬ c.2 > 0) → searchLoop ll r todo seen cells = .ok res →
      match res with
      | .inl key => ∃ c, Scored ll r pts c ∧ c.2 > 0 ∧ serialize c.1.toCell = .ok key
      | .inr cs => ∀ c ∈ cs, Scored ll r pts c ∧ ¬ c.2 > 0 := by
  intro todo
  induction todo with
  | nil =>
    intro seen cells res _ hc h
    cases h
    exact hc
  | cons s rest ih =>
    intro seen cells res hsub hc h
    obtain ⟨hs, hrest⟩ := List.forall_mem_cons.1 hsub
    unfold searchLoop at h
    obtain ⟨est, he, h⟩ := bind_eq_ok h
    obtain ⟨key, hk, h⟩ := bind_eq_ok h
    split at h
    · exact ih seen cells res hrest hc h
    · obtain ⟨d, hd, h⟩ := bind_eq_ok h
      have hsc : Scored ll r pts (est, d) := ⟨⟨s, hs, he⟩, hd⟩
      split at h
      · rename_i hpos
        cases h
        exact ⟨(est, d), hsc, hpos, hk⟩
      · rename_i hneg
        refine ih _ _ res hrest (fun c hcm => ?_) h
        rcases List.mem_append.1 hcm with hcm | hcm
        · exact hc c hcm
        · rw [List.mem_singleton.1 hcm]
          exact ⟨hsc, hneg⟩

theorem bestCandidate_mem {cs : List (Est × Float)} {b : Est × Float} (h : bestCandidate cs = some b) : b ∈ cs := by
  cases cs with
  | nil => cases h
  | cons c rest =>
    cases h
    refine List.foldlRecOn (motive := (· ∈ c :: rest)) _ _ List.mem_cons_self fun best hbest x hx => ?_
    split
    · exact List.mem_cons_of_mem _ hx
    · exact hbest

theorem lonlatToCell_spec {ll : V2} {r : Int} {id : Nat} (hr : 2 ≤ r) (h : lonlatToCell ll r = .ok id) :
    (∃ c, Scored ll r (samples ll (1 + r - FHR).toNat) c ∧ c.2 > 0 ∧ serialize c.1.toCell = .ok id) ∨
    (∃ cells : List (Est × Float), (∀ c ∈ cells, Scored ll r (samples ll (1 + r - FHR).toNat) c ∧ ¬ c.2 > 0) ∧
      ∃ b ∈ cells, serialize b.1.toCell = .ok id) := by
  unfold lonlatToCell at h
  rw [if_neg (by omega), if_neg (by rw [FHR_eq]; omega)] at h
  obtain ⟨res, hloop, h⟩ := bind_eq_ok h
  have hd := searchLoop_spec ll r _ _ [] [] res (fun _ hs => hs) (fun c hc => nomatch hc) hloop
  cases res with
  | inl key =>
    cases h
    exact Or.inl hd
  | inr cells =>
    simp only at hd h
    cases hb : bestCandidate cells with
    | none => rw [hb] at h; cases h
    | some b =>
      rw [hb] at h
      exact Or.inr ⟨cells, hd, b, bestCandidate_mem hb, h⟩

end A5.CellGeo
