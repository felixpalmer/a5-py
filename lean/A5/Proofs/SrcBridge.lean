/-
  Source-level tie: the definitions that `tools/py2lean.py` regenerates from `/repo`'s *current* source on every
  run (`A5/Gen/Src.lean`) compute exactly what the hand-written model computes — for every id (`Nat`), every
  resolution argument (`Int`), every cell record naming one of the twelve origins.  All property theorems about the
  model therefore hold of the translated source; a change of the source changes `Src.*` and these proofs are
  re-checked.

  Statement shape: `Src.f (↑args) = (Model.f args).map ↑·` — the translated code works on `Int`, the model on
  `Nat` ids and `Int` resolutions.
-/
import A5.Gen.Src
import A5.Model.Compact
import A5.Proofs.Ids
import A5.Proofs.PyM
import A5.Proofs.SrcBridgeAttr

namespace A5.Bridge
open A5

/-! The lemmas tagged `bridge` are one oriented rewrite system.  On the translated side an operator applied to casts
becomes the cast (or the `map` of the cast) of the model's operator, and `bind_map` hands the cast on to the
continuation; on the model side `map` is pushed to the leaves.  Both sides end as the same tree of `if`s whose paths
are straight-line `>>=` over model operations with leaves `ok ↑_`.  -/

@[bridge] theorem pure_ok {α} (a : α) : (pure a : PyM α) = .ok a := rfl
@[bridge] theorem map_ok {α β} (f : α → β) (a : α) : (Except.ok a : PyM α).map f = .ok (f a) := rfl
@[bridge] theorem map_error {α β} (f : α → β) (e : Err) : (Except.error e : PyM α).map f = .error e := rfl
/-- the `>>=` spelling (`A5.ok_bind`); `A5.bind_ok` is the `.bind` spelling -/
@[bridge] theorem bind_ok {α β} (a : α) (f : α → PyM β) : (Except.ok a : PyM α) >>= f = f a := ok_bind a f
@[bridge] theorem bind_error {α β} (e : Err) (f : α → PyM β) : (Except.error e : PyM α) >>= f = .error e := rfl
@[bridge] theorem bind_map {α β γ} (x : PyM α) (g : α → β) (f : β → PyM γ) : (x.map g) >>= f = x >>= fun a => f (g a) := by
  cases x <;> rfl

theorem map_cast_eq_ok {x : PyM Nat} {n : Nat} : x.map Int.ofNat = .ok (n : Int) ↔ x = .ok n := by
  cases x with
  | error e => exact ⟨nofun, nofun⟩
  | ok a => rw [map_ok, Except.ok.injEq, Except.ok.injEq, Int.ofNat_eq_natCast, Int.natCast_inj]

@[bridge] theorem bind_ok_right {α} (x : PyM α) : (x >>= fun a => Except.ok a) = x := bind_pure x

theorem map_eq_bind {α β} (x : PyM α) (g : α → β) : x.map g = x >>= fun a => .ok (g a) := map_eq_pure_bind g x

@[bridge] theorem bind_eq {α β} (x : PyM α) (f : α → PyM β) : x.bind f = x >>= f := rfl

@[bridge] theorem map_bind {α β γ} (x : PyM α) (f : α → PyM β) (g : β → γ) :
    (x >>= f).map g = x >>= fun a => (f a).map g := _root_.map_bind g x f

@[bridge] theorem map_ite {α β} (c : Prop) [Decidable c] (x y : PyM α) (g : α → β) :
    (if c then x else y).map g = if c then x.map g else y.map g := apply_ite (Except.map g) c x y

@[bridge] theorem ite_bind {α β} (c : Prop) [Decidable c] (x y : PyM α) (f : α → PyM β) :
    (if c then x else y) >>= f = if c then x >>= f else y >>= f := apply_ite (· >>= f) c x y

@[bridge] theorem ite_ok {α} (c : Prop) [Decidable c] (a b : α) :
    (if c then (Except.ok a : PyM α) else .ok b) = .ok (if c then a else b) := (apply_ite Except.ok c a b).symm

/-- enter the `else` of two `if`s with the same condition and the same `then`, keeping `¬c`: one step per Python guard -/
theorem ite_else {α} {c : Prop} [Decidable c] {x a b : α} (h : ¬c → a = b) :
    (if c then x else a) = if c then x else b := ite_congr rfl (fun _ => rfl) h

attribute [bridge] Int.ofNat_eq_natCast bind_assoc

@[bridge] theorem shl_nat (a : Nat) (n : Int) : Py.shl (a : Int) n = (shl a n).map Int.ofNat := by
  unfold Py.shl shl
  split <;> rfl

@[bridge] theorem shr_nat (a : Nat) (n : Int) : Py.shr (a : Int) n = (shr a n).map Int.ofNat := by
  unfold Py.shr shr
  split <;> rfl

/-- `1 << k`, `3 << k`: a numeral is not syntactically a cast (`no_index`: numerals are atoms of the index) -/
@[bridge] theorem shl_lit (a : Nat) (n : Int) :
    Py.shl (no_index (OfNat.ofNat a)) n = (shl (OfNat.ofNat a) n).map Int.ofNat := shl_nat a n

@[bridge] theorem band_nat (a b : Nat) : Py.band (a : Int) (b : Int) = ((a &&& b : Nat) : Int) := by
  rw [Py.band, if_pos (Int.natCast_nonneg a), if_pos (Int.natCast_nonneg b), Int.toNat_natCast, Int.toNat_natCast]

@[bridge] theorem bor_nat (a b : Nat) : Py.bor (a : Int) (b : Int) = ((a ||| b : Nat) : Int) := by
  rw [Py.bor, if_pos ⟨Int.natCast_nonneg a, Int.natCast_nonneg b⟩, Int.toNat_natCast, Int.toNat_natCast]

@[bridge] theorem band_lit (a k : Nat) :
    Py.band (a : Int) (no_index (OfNat.ofNat k)) = ((a &&& OfNat.ofNat k : Nat) : Int) := band_nat a k

@[bridge] theorem cast_add (a b : Nat) : (a : Int) + (b : Int) = ((a + b : Nat) : Int) := (Int.natCast_add a b).symm

@[bridge] theorem lit_mul_cast (k a : Nat) :
    (no_index (OfNat.ofNat k) : Int) * (a : Int) = ((OfNat.ofNat k * a : Nat) : Int) := (Int.natCast_mul _ a).symm

@[bridge] theorem fdiv_lit (a k : Nat) :
    Int.fdiv (a : Int) (no_index (OfNat.ofNat k)) = ((a / OfNat.ofNat k : Nat) : Int) := (Int.ofNat_fdiv a k).symm

theorem shr_int (a n : Int) (h : 0 ≤ n) : Py.shr a n = .ok (a / 2 ^ n.toNat) := by
  unfold Py.shr
  rw [if_neg (Int.not_lt.2 h), Int.shiftRight_eq_div_pow]
  rfl

theorem shl_int (a n : Int) (h : 0 ≤ n) : Py.shl a n = .ok (a * 2 ^ n.toNat) := by
  unfold Py.shl
  rw [if_neg (Int.not_lt.2 h), Int.shiftLeft_eq]

theorem pow_ok (a b : Int) (h : 0 ≤ b) : Py.pow a b = .ok (a ^ b.toNat) := by
  unfold Py.pow
  rw [if_neg (Int.not_lt.2 h)]

/-- The constants of the translated modules have the values of the model's (re-decided on every run), so a theorem
    about the model's `MAXR`, `REMOVAL_MASK`, … speaks of the source's `MAX_RESOLUTION`, `REMOVAL_MASK`, …
    Inside functions the translator substitutes their values, so the proofs below meet literals. -/
theorem consts :
    Src.serialization.FIRST_HILBERT_RESOLUTION = FHR ∧ Src.serialization.MAX_RESOLUTION = MAXR ∧
    Src.serialization.HILBERT_START_BIT = HSB ∧ Src.serialization.REMOVAL_MASK = (A5.REMOVAL_MASK : Int) ∧
    Src.serialization.WORLD_CELL = (A5.WORLD_CELL : Int) ∧ Src.cell_info.FIRST_HILBERT_RESOLUTION = CIFHR ∧
    Src.compact.FIRST_HILBERT_RESOLUTION = CFHR ∧ Src.compact.HILBERT_START_BIT = HSB := by decide

theorem get_num_cells_eq (r : Int) : Src.cell_info.get_num_cells r = .ok ((getNumCells r : Nat) : Int) := by
  unfold Src.cell_info.get_num_cells getNumCells
  simp only [Nat.cast_ite, apply_ite Except.ok]
  refine ite_else fun _ => ite_else fun _ => ?_
  simp only [bridge, pow_ok 4 (r - 1) (by omega), Nat.cast_mul, Nat.cast_pow, Nat.cast_ofNat]

theorem get_num_children_eq (p c : Int) :
    Src.cell_info.get_num_children p c = .ok ((getNumChildren p c : Nat) : Int) := by
  unfold Src.cell_info.get_num_children getNumChildren
  rw [CIFHR_eq]
  simp only [Nat.cast_ite, apply_ite Except.ok]
  refine ite_else fun h1 => ite_else fun _ => ite_congr rfl (fun _ => ?_) fun _ => ?_
  · rw [pow_ok 4 (c - p) (Int.sub_nonneg.2 (Int.not_lt.1 h1)), Nat.cast_pow, Nat.cast_ofNat]
  · -- `get_num_cells(p) or 1` is never 0, so `//` does not raise
    have hor : Py.orInt (getNumCells p : Int) 1 = ((if getNumCells p = 0 then 1 else getNumCells p : Nat) : Int) := by
      simp only [Py.orInt, ite_not, Nat.cast_ite, Int.natCast_eq_zero, Nat.cast_one]
    have hne : (if getNumCells p = 0 then 1 else getNumCells p) ≠ 0 := by
      split
      · exact Nat.one_ne_zero
      · assumption
    simp only [bridge, get_num_cells_eq, hor, Py.floordiv, if_neg (Int.natCast_ne_zero.2 hne), ← Int.ofNat_fdiv]

theorem get_stride_eq (r : Int) : Src.serialization.get_stride r = (getStride r).map Int.ofNat := by
  unfold Src.serialization.get_stride getStride
  simp only [bridge, HSB_eq, MAXR_eq]

theorem get_resolution_loop_eq (fuel : Nat) (res : Int) (sh : Nat) (hf : res + 2 ≤ fuel) (hres : -1 ≤ res) :
    ∃ sh' : Nat, Src.serialization.get_resolution_loop1 fuel res sh = .ok (getResLoop fuel res sh, (sh' : Int)) := by
  induction fuel generalizing res sh with
  | zero => omega
  | succ f ih =>
    unfold Src.serialization.get_resolution_loop1 getResLoop
    have hk : (if res - 1 < 2 then (1 : Int) else 2) = ((if res - 1 < 2 then 1 else 2 : Nat) : Int) :=
      (Nat.cast_ite ..).symm
    simp only [bridge, FHR_eq, hk, shr_ok _ _ (Int.natCast_nonneg _), Int.toNat_natCast, Nat.cast_eq_zero]
    by_cases h : res > -1 ∧ sh &&& 1 = 0
    · rw [if_pos h, if_pos h]
      exact ih (res - 1) _ (by omega) (Int.le_sub_one_of_lt h.1)
    · rw [if_neg h, if_neg h]
      exact ⟨sh, rfl⟩

theorem get_resolution_eq (index : Nat) :
    Src.serialization.get_resolution (index : Int) = .ok (getResolution index) := by
  unfold Src.serialization.get_resolution getResolution
  -- `30` is `MAX_RESOLUTION` by value: fuel `MAX_RESOLUTION + 2`, first resolution tested `MAX_RESOLUTION - 1`; the model runs
  -- `getResLoop` with fuel `MAX_RESOLUTION + 1`, hence `getResLoop_fuel` at the end
  obtain ⟨sh', h⟩ := get_resolution_loop_eq ((30 : Int) + 2).toNat ((30 : Int) - 1) (index >>> 1) (by decide) (by decide)
  simp only [bridge, shr_ok, Int.reduceLE, Int.reduceToNat, h, MAXR_eq]
  exact congrArg Except.ok (getResLoop_fuel _ _ _ _ (by decide) (by decide))

def cellOf (c : Cell) : Py.SCell := { origin := c.origin, segment := c.segment, S := c.S, resolution := c.res }

theorem listGet_nat (L : List Nat) (k : Nat) :
    Py.listGet (L.map Int.ofNat) (k : Int) = (match L[k]? with | some v => .ok (v : Int) | none => .error .index : PyM Int) := by
  unfold Py.listGet
  simp only [if_neg (Int.not_lt.2 (Int.natCast_nonneg k)), Int.toNat_natCast, List.getElem?_map]
  cases L[k]? <;> rfl

theorem listSet_nat (res : List Nat) (k : Nat) (v : Nat) :
    Py.listSet (res.map Int.ofNat) (k : Int) (v : Int)
      = (if k < res.length then .ok ((res.set k v).map Int.ofNat) else .error .index : PyM (List Int)) := by
  unfold Py.listSet
  simp only [if_neg (Int.not_lt.2 (Int.natCast_nonneg k)), Int.toNat_natCast, List.length_map]
  split
  · rw [List.map_set]
    rfl
  · rfl

theorem listGet_append_mid {α} (pre : List α) (x : α) (rest : List α) :
    Py.listGet (pre ++ x :: rest) (pre.length : Int) = .ok x := by
  unfold Py.listGet
  simp only [if_neg (Int.not_lt.2 (Int.natCast_nonneg _)), Int.toNat_natCast,
    List.getElem?_append_right (Nat.le_refl _), Nat.sub_self, List.getElem?_cons_zero]

@[bridge] theorem originsGet_nat (i : Nat) : Py.originsGet (i : Int) = (originAt i).map Int.ofNat := by
  unfold Py.originsGet Py.origins originAt
  rw [listGet_nat, ORIGIN_IDS_eq, NUM_ORIGINS_eq]
  by_cases h : i < 12
  · rw [List.getElem?_range h, if_pos h]
    rfl
  · rw [List.getElem?_eq_none (by rw [List.length_range]; exact Nat.le_of_not_lt h), if_neg h]
    rfl

@[bridge] theorem originsGet_lit (i : Nat) :
    Py.originsGet (no_index (OfNat.ofNat i)) = (originAt (OfNat.ofNat i)).map Int.ofNat := originsGet_nat i

@[bridge] theorem firstQuintant_nat (o : Nat) : Py.firstQuintant (o : Int) = firstQuintant o := by
  unfold Py.firstQuintant firstQuintant
  rw [Int.toNat_natCast]

theorem originId_nat (o : Nat) (h : o < 12) : Py.originId (o : Int) = (o : Int) := by
  unfold Py.originId
  rw [ORIGIN_IDS_eq, Int.toNat_natCast, List.getD_eq_getElem?_getD, List.getElem?_range h]
  rfl

theorem deserialize_eq (index : Nat) :
    Src.serialization.deserialize (index : Int) = (deserialize index).map cellOf := by
  unfold Src.serialization.deserialize deserialize
  have hmask : (288230376151711743 : Int) = ((A5.REMOVAL_MASK : Nat) : Int) := by decide  -- `REMOVAL_MASK` by value
  simp only [bridge, get_resolution_eq, hmask, FHR_eq, HSB_eq, Int.fmod_eq_emod_of_nonneg, shr_ok, cellOf, if_false,
    Int.reduceLE, Int.reduceToNat]

/-- Only `origin.id` needs the origin to be one of the twelve.  `S < 0` is rejected by both sides after the same two
    guards; past that guard `S` is a cast and every operator commutes with it. -/
theorem serialize_eq (c : Cell) (ho : c.origin < 12) :
    Src.serialization.serialize (cellOf c) = (serialize c).map Int.ofNat := by
  obtain ⟨o, seg, S, r⟩ := c
  have hseg : (seg - firstQuintant o + 5).fmod 5 = (((seg - firstQuintant o + 5) % 5).toNat : Int) := by
    rw [Int.fmod_eq_emod_of_nonneg _ (by decide), Int.toNat_of_nonneg (Int.emod_nonneg _ (by decide))]
  unfold Src.serialization.serialize serialize cellOf
  rw [map_ite, map_ite, map_ite]
  refine ite_else fun _ => ite_else fun _ => ite_else fun hS => ?_
  obtain ⟨s, rfl⟩ := Int.eq_ofNat_of_zero_le (Int.not_lt.1 hS)
  simp only [bridge, hseg, originId_nat o ho, FHR_eq, HSB_eq, Int.toNat_natCast]

theorem cell_to_parent_eq (index : Nat) (pr : Option Int) :
    Src.serialization.cell_to_parent (index : Int) pr = (cellToParent index pr).map Int.ofNat := by
  unfold Src.serialization.cell_to_parent cellToParent
  rw [deserialize_eq]
  cases hd : deserialize index with
  | error e => rfl
  | ok c =>
    have ho := deserialize_origin_lt hd
    simp only [bridge, cellOf, WORLD_CELL_eq, Nat.cast_zero]
    -- source: `match pr with …`, model: `pr.getD …`; both reduce once `pr` is a constructor (inside `refine`/`exact`)
    cases pr
    all_goals
      refine ite_else fun _ => ite_else fun _ => ite_else fun h => ite_else fun _ => ?_
      rw [shr_int _ _ (Int.mul_nonneg (by decide) (Int.sub_nonneg.2 (Int.not_lt.1 h))), bind_ok]
      exact serialize_eq ⟨_, _, _, _⟩ ho

theorem mod_nat (a b : Nat) (hb : b ≠ 0) : Py.mod (a : Int) (b : Int) = .ok ((a % b : Nat) : Int) := by
  unfold Py.mod
  rw [if_neg (Int.natCast_ne_zero.2 hb), ← Int.ofNat_fmod]

theorem ofProp_cast_eq_zero (n : Nat) : Py.ofProp ((n : Int) = 0) = (n == 0) := by
  rw [beq_eq_decide]
  exact decide_eq_decide.2 Int.natCast_eq_zero

theorem is_first_child_eq (index : Nat) (res : Option Int) :
    Src.serialization.is_first_child (index : Int) res = isFirstChild index res := by
  unfold Src.serialization.is_first_child isFirstChild
  have hcount : ∀ r : Int, (if r = 0 then (12 : Int) else 5) = ((if r = 0 then 12 else 5 : Nat) : Int) := by
    intro r
    split <;> rfl
  have hne : ∀ r : Int, (if r = 0 then 12 else 5 : Nat) ≠ 0 := by
    intro r
    split <;> decide
  cases res
  all_goals
    simp only [bridge, get_resolution_eq, Option.getD, HSB_eq, MAXR_eq, hcount, mod_nat _ _ (hne _), ofProp_cast_eq_zero]

theorem hierarchical_key_eq (cell : Nat) :
    Src.compact._hierarchical_key (cell : Int) = .ok ((hierarchicalKey cell : Nat) : Int) := by
  unfold Src.compact._hierarchical_key hierarchicalKey
  simp only [bridge, get_resolution_eq, shr_ok, shl_ok, HSB_eq, Int.reduceLE, Int.reduceToNat, Nat.cast_ite]

end A5.Bridge
