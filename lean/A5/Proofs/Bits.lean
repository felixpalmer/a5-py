/-
  Arithmetic facts about the id layout.  With m the marker position, an id is
      t * 2^58 + S * 2^(m+1) + 2^m,   S < 2^(57-m),
  top value, position field and marker bit in disjoint bit ranges.
-/
import Mathlib.Tactic.Ring

-- `2 ^ n : Nat` with a variable exponent stays on the core instance; with a literal one (`2 ^ 58`) Mathlib
-- elaborates it through `Monoid.npow` with or without this line
attribute [local instance 2000] instPowNat

namespace A5.Bits

theorem two_pow_58_split (m : Nat) (hm : m ≤ 57) : (2:Nat) ^ 58 = 2 ^ (57 - m) * 2 ^ (m + 1) := by
  rw [← Nat.pow_add, ← Nat.add_assoc, Nat.sub_add_cancel hm]

theorem low_lt_pow {m S : Nat} (hm : m ≤ 57) (hS : S < 2 ^ (57 - m)) :
    S * 2 ^ (m + 1) + 2 ^ m < 2 ^ 58 := by
  have h : (2:Nat) ^ m < 2 ^ (m + 1) := Nat.pow_lt_pow_succ Nat.one_lt_two
  calc S * 2 ^ (m + 1) + 2 ^ m < (S + 1) * 2 ^ (m + 1) := by rw [Nat.add_mul, Nat.one_mul]; exact Nat.add_lt_add_left h _
    _ ≤ 2 ^ 58 := by rw [two_pow_58_split m hm]; exact Nat.mul_le_mul_right _ hS

theorem low_div_pow (m S : Nat) : (S * 2 ^ (m + 1) + 2 ^ m) / 2 ^ (m + 1) = S := by
  rw [Nat.add_comm, Nat.add_mul_div_right _ _ (Nat.two_pow_pos (m + 1)),
    Nat.div_eq_of_lt (Nat.pow_lt_pow_succ Nat.one_lt_two), Nat.zero_add]

theorem id_eq_pow_mul_odd (t S m : Nat) (hm : m ≤ 57) :
    t * 2 ^ 58 + S * 2 ^ (m + 1) + 2 ^ m = 2 ^ m * (2 * (t * 2 ^ (57 - m) + S) + 1) := by
  rw [two_pow_58_split m hm, Nat.pow_succ]
  ring

theorem or_marker_of_dvd {x m : Nat} (h : 2 ^ (m + 1) ∣ x) : x ||| 2 ^ m = x + 2 ^ m := by
  obtain ⟨q, rfl⟩ := h
  exact (Nat.two_pow_add_eq_or_of_lt (Nat.pow_lt_pow_succ Nat.one_lt_two) q).symm

theorem dvd_top {m : Nat} (t : Nat) (hm : m ≤ 57) : 2 ^ (m + 1) ∣ t * 2 ^ 58 :=
  Dvd.dvd.mul_left (Nat.pow_dvd_pow 2 (Nat.succ_le_succ hm)) t

theorem bit_zero_of_lt {m k : Nat} (q : Nat) (h : k < m) : ((2 ^ m * (2 * q + 1)) >>> k) &&& 1 = 0 := by
  rw [Nat.and_one_is_mod, Nat.shiftRight_eq_div_pow]
  obtain ⟨d, rfl⟩ := Nat.exists_eq_add_of_lt h
  rw [Nat.pow_succ, Nat.pow_add, Nat.mul_assoc, Nat.mul_assoc, Nat.mul_div_cancel_left _ (Nat.two_pow_pos k), Nat.mul_left_comm]
  exact Nat.mul_mod_right 2 _

theorem bit_one_at (m q : Nat) : ((2 ^ m * (2 * q + 1)) >>> m) &&& 1 = 1 := by
  rw [Nat.and_one_is_mod, Nat.shiftRight_eq_div_pow, Nat.mul_div_cancel_left _ (Nat.two_pow_pos m)]
  exact Nat.mul_add_mod 2 q 1

/-- `index & s_mask` in `is_first_child` (marker at bit `s`, `s_mask = 3 << (s + 1)`): the two low bits of the position -/
theorem and_mask (i s : Nat) : (i * 2 ^ (s + 1) + 2 ^ s) &&& 3 * 2 ^ (s + 1) = i % 4 * 2 ^ (s + 1) := by
  have h0 : 2 ^ s &&& 3 <<< (s + 1) = 0 := by
    rw [← Nat.one_shiftLeft, Nat.add_comm s 1, Nat.shiftLeft_add, ← Nat.shiftLeft_and_distrib]
    exact Nat.zero_shiftLeft s
  rw [← or_marker_of_dvd (Nat.dvd_mul_left _ i), ← Nat.shiftLeft_eq, ← Nat.shiftLeft_eq, Nat.and_or_distrib_right, h0, Nat.or_zero,
    ← Nat.shiftLeft_and_distrib, ← Nat.shiftLeft_eq]
  exact congrArg (· <<< (s + 1)) (Nat.and_two_pow_sub_one_eq_mod i 2)

/-- the shift by `2 * n` bits, as `cell_to_parent` and `cell_to_children` write it -/
theorem two_pow_toNat (n : Nat) : (2 : Int) ^ (2 * (n : Int)).toNat = ((4 ^ n : Nat) : Int) := by
  rw [show (2 * (n : Int)).toNat = 2 * n from Int.toNat_natCast (2 * n), Int.pow_mul, Int.natCast_pow]
  rfl

end A5.Bits
