/-
  The rationals as a `Scalar`: the type over which the scalar-generic parts of the model (`ij_to_s`, `Planar.place`) are reasoned
  about in exact arithmetic.  ℚ contains every IEEE double.
-/
import A5.Model.Hilbert
import Mathlib.Algebra.Order.Ring.Rat

namespace A5.Hilbert

instance : Scalar ℚ where
  ofInt := fun z => (z : ℚ)
  add := (· + ·)
  sub := (· - ·)
  mul := (· * ·)
  div := (· / ·)
  neg := fun x => -x
  lt := fun a b => decide (a < b)

end A5.Hilbert

namespace A5.Planar
open A5.Hilbert

@[simp] theorem sc_add (a b : ℚ) : Scalar.add a b = a + b := rfl
@[simp] theorem sc_sub (a b : ℚ) : Scalar.sub a b = a - b := rfl
@[simp] theorem sc_mul (a b : ℚ) : Scalar.mul a b = a * b := rfl
@[simp] theorem sc_div (a b : ℚ) : Scalar.div a b = a / b := rfl
@[simp] theorem sc_neg (a : ℚ) : Scalar.neg a = -a := rfl
@[simp] theorem sc_ofInt (z : Int) : (Scalar.ofInt z : ℚ) = (z : ℚ) := rfl
@[simp] theorem sc_lt (a b : ℚ) : Scalar.lt a b = decide (a < b) := rfl

end A5.Planar
