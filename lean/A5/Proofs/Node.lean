/-
  The hierarchy as one mixed-radix tree.  Level ℓ = resolution + 1: level 0 is the world cell, level 1 the 12 faces,
  level 2 the 60 segments, and from there on every cell has four Hilbert children.  A cell is its index among the cells
  of its level in hierarchical order: ids are linear in the index, and the ancestor at level a of the cell with index j
  at level b has index j / fan a b.  The three kinds of parent/child step are one.

  Indexing: `mpos r`, `npos r`, `stride r` take a resolution (they follow the id layout); `wid ℓ`, `kids ℓ`, `fan a b`,
  `node ℓ i`, `IsNode ℓ i`, `below a i b` (Tree.lean) take levels.  A lemma about one of the model's functions that
  takes a resolution `ρ : Int` for the level `ℓ` asks for `ρ + 1 = ℓ`: the world cell has resolution −1, and for the
  level `r + 1` of a cell `↑r + 1 = ↑(r + 1)` holds by `rfl`.
-/
import A5.Proofs.Codec

attribute [local instance 2000] instPowNat  -- see Bits.lean

namespace A5
open A5.Bits

/-- finest-level (level 30) cells under one cell of level ℓ -/
def wid (ℓ : Nat) : Nat := if ℓ = 0 then 60 * 4 ^ 28 else if ℓ = 1 then 5 * 4 ^ 28 else 4 ^ (30 - ℓ)

/-- children of a cell of level ℓ - 1 -/
def kids (ℓ : Nat) : Nat := if ℓ = 1 then 12 else if ℓ = 2 then 5 else 4

/-- level-b cells under one cell of level a; `fan 0 ℓ` is the number of cells of level ℓ -/
def fan (a b : Nat) : Nat := wid a / wid b

/-- id increment between neighbouring cells of resolution r -/
def stride (r : Nat) : Nat := if r < 2 then 2 ^ 58 else 2 ^ (mpos r + 1)

/-- the id of the cell with index i at level ℓ -/
def node : Nat → Nat → Nat
  | 0, _ => 0
  | r + 1, i => i * stride r + 2 ^ mpos r

/-- `i` is the index of a cell of level `ℓ`.  Levels end at 30: `MAX_RESOLUTION = 30`, but ids exist only for resolutions ≤ 29.  At resolution 30 the marker bit
    would sit at position −1 and `serialize` raises (`C05.res30_unencodable`; DESIGN.md, known finding D6).  Hence the
    finest cells have resolution 29 (`IsLeaf`, `allValid29`, the `30 - ℓ` in `wid`), a cell that has children has
    resolution ≤ 28 (`Reduced`, `first_child_exists`), and a segment holds `P28 = 4 ^ 28` finest cells. -/
def IsNode (ℓ i : Nat) : Prop := ℓ ≤ 30 ∧ i < fan 0 ℓ

theorem wid_of_two_le {ℓ : Nat} (h : 2 ≤ ℓ) : wid ℓ = 4 ^ (30 - ℓ) := by
  unfold wid
  rw [if_neg (Nat.ne_zero_of_lt h), if_neg (Nat.ne_of_gt h)]

theorem wid_pos (ℓ : Nat) : 0 < wid ℓ := by
  unfold wid
  split
  · decide
  · split
    · decide
    · exact Nat.pow_pos (by decide)

theorem wid_succ (ℓ : Nat) (h : ℓ < 30) : wid ℓ = kids (ℓ + 1) * wid (ℓ + 1) := by
  rcases ℓ with _ | _ | ℓ
  · decide
  · decide
  · rw [wid_of_two_le (Nat.le_add_left 2 ℓ), wid_of_two_le (Nat.le_add_left 2 (ℓ + 1)),
      show kids (ℓ + 2 + 1) = 4 from rfl, ← Nat.pow_succ']
    congr 1
    exact (Nat.succ_pred_eq_of_pos (Nat.sub_pos_of_lt h)).symm

theorem wid_dvd {a b : Nat} (hab : a ≤ b) (hb : b ≤ 30) : wid b ∣ wid a := by
  induction b, hab using Nat.le_induction with
  | base => exact Nat.dvd_refl _
  | succ b _ ih => exact Nat.dvd_trans ⟨_, (wid_succ b hb).trans (Nat.mul_comm _ _)⟩ (ih (Nat.le_of_lt hb))

theorem fan_mul_wid {a b : Nat} (hab : a ≤ b) (hb : b ≤ 30) : fan a b * wid b = wid a :=
  Nat.div_mul_cancel (wid_dvd hab hb)

theorem fan_eq_of {a b f : Nat} (h : wid a = f * wid b) : fan a b = f := by
  unfold fan
  rw [h, Nat.mul_div_cancel _ (wid_pos b)]

theorem fan_pos {a b : Nat} (hab : a ≤ b) (hb : b ≤ 30) : 0 < fan a b :=
  Nat.pos_of_mul_pos_right (by rw [fan_mul_wid hab hb]; exact wid_pos a)

theorem fan_self (a : Nat) : fan a a = 1 := Nat.div_self (wid_pos a)

theorem fan_succ {ℓ : Nat} (h : ℓ < 30) : fan ℓ (ℓ + 1) = kids (ℓ + 1) := fan_eq_of (wid_succ ℓ h)

theorem four_le_kids (ℓ : Nat) : 4 ≤ kids ℓ := by
  unfold kids
  split
  · decide
  · split <;> decide

theorem fan_mul {a b c : Nat} (hab : a ≤ b) (hbc : b ≤ c) (hc : c ≤ 30) : fan a b * fan b c = fan a c := by
  apply Nat.eq_of_mul_eq_mul_right (wid_pos c)
  rw [Nat.mul_assoc, fan_mul_wid hbc hc, fan_mul_wid hab (Nat.le_trans hbc hc), fan_mul_wid (Nat.le_trans hab hbc) hc]

theorem one_lt_fan {a b : Nat} (hab : a < b) (hb : b ≤ 30) : 1 < fan a b := by
  rw [← fan_mul (Nat.le_succ a) hab hb, fan_succ (Nat.lt_of_lt_of_le hab hb)]
  exact Nat.lt_of_lt_of_le (Nat.lt_of_lt_of_le (by decide) (four_le_kids (a + 1)))
    (Nat.le_mul_of_pos_right _ (fan_pos hab hb))

theorem div_fan_div_fan {a b c : Nat} (hab : a ≤ b) (hbc : b ≤ c) (hc : c ≤ 30) (k : Nat) :
    k / fan b c / fan a b = k / fan a c := by
  rw [Nat.div_div_eq_div_mul, Nat.mul_comm, fan_mul hab hbc hc]

theorem fan_hilbert {a b : Nat} (ha : 1 ≤ a) (hab : a ≤ b) (hb : b ≤ 29) : fan (a + 1) (b + 1) = 4 ^ (b - a) := by
  apply fan_eq_of
  rw [wid_of_two_le (Nat.succ_le_succ ha), wid_of_two_le (Nat.succ_le_succ (Nat.le_trans ha hab)), ← Nat.pow_add,
    Nat.add_comm, ← Nat.add_sub_add_right b 1 a, Nat.sub_add_sub_cancel (Nat.succ_le_succ hb) (Nat.succ_le_succ hab)]

theorem fan_one_succ {r : Nat} (h1 : 1 ≤ r) (hr : r ≤ 29) : fan 1 (r + 1) = 5 * npos r := by
  rw [← fan_mul (Nat.le_succ 1) (Nat.succ_le_succ h1) (Nat.succ_le_succ hr), fan_hilbert (Nat.le_refl 1) h1 hr, npos_pow]
  rfl

theorem fan_zero_succ {r : Nat} (hr : r ≤ 29) : fan 0 (r + 1) = (if r = 0 then 12 else 60) * npos r := by
  rcases r with _ | r
  · decide
  · rw [if_neg (Nat.succ_ne_zero r), ← fan_mul (Nat.zero_le 2) (Nat.le_add_left 2 r) (Nat.succ_le_succ hr),
      fan_hilbert (Nat.le_refl 1) (Nat.le_add_left 1 r) hr, npos_pow]
    rfl

theorem npos_mul_pow {a r : Nat} (ha : 1 ≤ a) (har : a ≤ r) : npos a * 4 ^ (r - a) = npos r := by
  rw [npos_pow, npos_pow, ← Nat.pow_add, Nat.add_comm, Nat.sub_add_sub_cancel har ha]

theorem IsNode.anc {a b j : Nat} (h : IsNode b j) (hab : a ≤ b) : IsNode a (j / fan a b) := by
  refine ⟨Nat.le_trans hab h.1, Nat.div_lt_of_lt_mul ?_⟩
  rw [Nat.mul_comm, fan_mul (Nat.zero_le a) hab h.1]
  exact h.2

theorem IsNode.of_anc {a b j : Nat} (hab : a ≤ b) (hb : b ≤ 30) (h : IsNode a (j / fan a b)) : IsNode b j := by
  refine ⟨hb, ?_⟩
  rw [← fan_mul (Nat.zero_le a) hab hb]
  exact (Nat.div_lt_iff_lt_mul (fan_pos hab hb)).1 h.2

theorem isNode_zero {i : Nat} : IsNode 0 i ↔ i = 0 := by
  rw [IsNode, fan_self, Nat.lt_one_iff]
  exact and_iff_right (Nat.zero_le 30)

theorem node_succ (r i : Nat) : node (r + 1) i = i * stride r + 2 ^ mpos r := rfl

theorem node_add (r i j : Nat) : node (r + 1) (i + j) = node (r + 1) i + j * stride r := by
  rw [node_succ, node_succ, Nat.add_mul, Nat.add_right_comm]

theorem stride_pos (r : Nat) : 0 < stride r := by
  unfold stride
  split <;> exact Nat.two_pow_pos _

theorem npos_mul_stride {r : Nat} (hr : r ≤ 29) : npos r * stride r = 2 ^ 58 := by
  unfold stride
  by_cases h2 : r < 2
  · rw [if_pos h2]
    unfold npos
    rw [if_pos h2, Nat.one_mul]
  · rw [if_neg h2, npos_eq r (Nat.le_of_not_lt h2) hr]
    exact (two_pow_58_split (mpos r) (mpos_le r hr)).symm

theorem encId_eq_node {t S r : Nat} (hr : r ≤ 29) (hS : S < npos r) : encId t S r = node (r + 1) (t * npos r + S) := by
  have e : S * 2 ^ (mpos r + 1) = S * stride r := by
    unfold stride
    by_cases h2 : r < 2
    · rw [npos_small r S h2 hS, Nat.zero_mul, Nat.zero_mul]
    · rw [if_neg h2]
  rw [encId, node_succ, e, ← npos_mul_stride hr, ← Nat.mul_assoc, ← Nat.add_mul]

theorem WF.isNode {t S r : Nat} (h : WF t S r) : IsNode (r + 1) (t * npos r + S) := by
  refine ⟨Nat.succ_le_succ h.1, ?_⟩
  rw [fan_zero_succ h.1]
  calc t * npos r + S < t * npos r + npos r := Nat.add_lt_add_left h.2.1 _
    _ = (t + 1) * npos r := (Nat.succ_mul _ _).symm
    _ ≤ _ := Nat.mul_le_mul_right _ h.2.2

theorem WF.exists_node {t S r : Nat} (h : WF t S r) : ∃ i, IsNode (r + 1) i ∧ encId t S r = node (r + 1) i :=
  ⟨_, h.isNode, encId_eq_node h.1 h.2.1⟩

theorem IsNode.wf {r i : Nat} (h : IsNode (r + 1) i) : WF (i / npos r) (i % npos r) r := by
  have hr : r ≤ 29 := Nat.le_of_succ_le_succ h.1
  refine ⟨hr, Nat.mod_lt _ (npos_pos r), Nat.div_lt_of_lt_mul ?_⟩
  rw [Nat.mul_comm, ← fan_zero_succ hr]
  exact h.2

theorem node_eq_encId {r i : Nat} (h : IsNode (r + 1) i) : node (r + 1) i = encId (i / npos r) (i % npos r) r := by
  rw [encId_eq_node h.wf.1 h.wf.2.1, Nat.div_add_mod']

theorem validId_iff_node {x : Nat} : ValidId x ↔ ∃ ℓ i, IsNode ℓ i ∧ x = node ℓ i := by
  constructor
  · rintro (rfl | ⟨t, S, r, h, rfl⟩)
    · exact ⟨0, 0, isNode_zero.2 rfl, rfl⟩
    · exact ⟨_, h.exists_node⟩
  · rintro ⟨ℓ, i, h, rfl⟩
    cases ℓ with
    | zero => exact Or.inl rfl
    | succ r => exact Or.inr ⟨_, _, _, h.wf, node_eq_encId h⟩

theorem getResolution_node_succ {r i : Nat} (h : IsNode (r + 1) i) : getResolution (node (r + 1) i) = (r : Int) := by
  rw [node_eq_encId h, getResolution_encId h.wf]

theorem getResolution_node {ℓ i : Nat} (h : IsNode ℓ i) : getResolution (node ℓ i) = (ℓ : Int) - 1 := by
  cases ℓ with
  | zero => exact getResolution_zero
  | succ r => exact (getResolution_node_succ h).trans (Int.add_sub_cancel (r : Int) 1).symm

theorem node_le_iff {r i j : Nat} : node (r + 1) i ≤ node (r + 1) j ↔ i ≤ j := by
  rw [node_succ, node_succ, Nat.add_le_add_iff_right, Nat.mul_le_mul_right_iff (stride_pos r)]

theorem node_succ_inj {r i j : Nat} (e : node (r + 1) i = node (r + 1) j) : i = j := by
  rw [node_succ, node_succ] at e
  exact Nat.eq_of_mul_eq_mul_right (stride_pos r) (Nat.add_right_cancel e)

theorem node_inj {a i b j : Nat} (ha : IsNode a i) (hb : IsNode b j) (e : node a i = node b j) : a = b ∧ i = j := by
  have hab : a = b := by
    have := getResolution_node ha
    rw [e, getResolution_node hb] at this
    exact (Int.ofNat_inj.1 ((Int.sub_left_inj 1).1 this)).symm
  subst hab
  refine ⟨rfl, ?_⟩
  cases a with
  | zero => rw [isNode_zero.1 ha, isNode_zero.1 hb]
  | succ r => exact node_succ_inj e

theorem deserialize_node {r i : Nat} (h : IsNode (r + 1) i) :
    deserialize (node (r + 1) i) = .ok (decodeCell (i / npos r) (i % npos r) r) := by
  rw [node_eq_encId h, deserialize_encId h.wf]

theorem deserialize_node_res {ℓ i : Nat} (h : IsNode ℓ i) : ∃ c, deserialize (node ℓ i) = .ok c ∧ c.res + 1 = ℓ := by
  cases ℓ with
  | zero => exact ⟨_, deserialize_world, rfl⟩
  | succ r => exact ⟨_, deserialize_node h, rfl⟩

theorem cellToParent_eq {n : Nat} {c : Cell} (hd : deserialize n = .ok c) (a : Int) :
    cellToParent n (some a) =
      if a = -1 then .ok 0 else if a < -1 then .error .value else if a > c.res then .error .value
      else if a = c.res then .ok n
      else serialize { origin := c.origin, segment := c.segment, S := c.S / 2 ^ (2 * (c.res - a)).toNat, res := a } := by
  unfold cellToParent
  rw [hd, bind_ok, WORLD_CELL_eq]
  rfl

theorem cellToParent_none {n : Nat} {c : Cell} (hd : deserialize n = .ok c) :
    cellToParent n none = cellToParent n (some (c.res - 1)) := by
  unfold cellToParent
  rw [hd, bind_ok, bind_ok]
  rfl

/-- what `cell_to_parent` does to the fields (top value to the face when the target is a face, position shifted right),
    read on the index `j = t * npos r + S` -/
theorem anc_index {j r a : Nat} (har : a < r) (hr : r ≤ 29) :
    j % npos r / 4 ^ (r - a) < npos a ∧
    (if a = 0 then j / npos r / 5 else j / npos r) * npos a + j % npos r / 4 ^ (r - a) = j / fan (a + 1) (r + 1) := by
  have hS := Nat.mod_lt j (npos_pos r)
  rcases Nat.eq_zero_or_pos a with rfl | ha1
  · have h0 : j % npos r / 4 ^ (r - 0) = 0 := by
      apply Nat.div_eq_of_lt
      refine Nat.lt_of_lt_of_le hS ?_
      rw [npos_pow]
      exact Nat.pow_le_pow_right (by decide) (Nat.sub_le r 1)
    rw [h0, fan_one_succ har hr, if_pos rfl, Nat.add_zero, show npos 0 = 1 from rfl, Nat.mul_one, Nat.mul_comm 5,
      Nat.div_div_eq_div_mul]
    exact ⟨Nat.one_pos, rfl⟩
  · have hn := npos_mul_pow ha1 (Nat.le_of_lt har)
    have hp : 0 < 4 ^ (r - a) := Nat.pow_pos (by decide)
    refine ⟨Nat.div_lt_of_lt_mul (by rwa [Nat.mul_comm, hn]), ?_⟩
    rw [fan_hilbert ha1 (Nat.le_of_lt har) hr, if_neg (Nat.ne_of_gt ha1)]
    conv => rhs; rw [← Nat.div_add_mod j (npos r)]
    rw [← hn, Nat.mul_comm (npos a), Nat.mul_assoc, Nat.mul_add_div hp, Nat.mul_comm (npos a)]

theorem cellToParent_node {a b j : Nat} (h : IsNode b j) (hab : a ≤ b) {ρ : Int} (hρ : ρ + 1 = a) :
    cellToParent (node b j) (some ρ) = .ok (node a (j / fan a b)) := by
  rcases a with _ | a
  · obtain ⟨c, hd, -⟩ := deserialize_node_res h
    rw [cellToParent_eq hd, if_pos (by omega)]
    rfl
  rcases b with _ | r
  · exact absurd hab (Nat.not_succ_le_zero a)
  obtain rfl : ρ = a := (Int.add_left_inj 1).1 hρ
  have har : a ≤ r := Nat.le_of_succ_le_succ hab
  have hr := h.wf.1
  rw [cellToParent_eq (deserialize_node h), if_neg (by omega), if_neg (by omega)]
  unfold decodeCell
  rw [if_neg (Int.not_lt.2 (Int.ofNat_le.2 har))]
  rcases Nat.eq_or_lt_of_le har with rfl | hlt
  · rw [if_pos rfl, fan_self, Nat.div_one]
  · have hr0 : r ≠ 0 := Nat.ne_zero_of_lt hlt
    obtain ⟨hS, hidx⟩ := anc_index (j := j) hlt hr
    have ha : a ≤ 29 := Nat.le_trans har hr
    rw [if_neg (Int.ne_of_lt (Int.ofNat_lt.2 hlt)), if_neg hr0, if_neg hr0, ← Int.ofNat_sub har, two_pow_toNat,
      ← Int.natCast_ediv, serialize_ok _ _ _ a ha hS, topOf_segment _ a, encId_eq_node ha hS, hidx]

theorem cellToParent_node_finer {b j : Nat} (h : IsNode b j) {a : Int} (hba : (b : Int) ≤ a) :
    cellToParent (node b j) (some a) = .error .value := by
  obtain ⟨c, hd, hc⟩ := deserialize_node_res h
  rw [cellToParent_eq hd, if_neg (by omega), if_neg (by omega), if_pos (by omega)]

theorem cellToParent_below_world {b j : Nat} (h : IsNode b j) {a : Int} (ha : a < -1) :
    cellToParent (node b j) (some a) = .error .value := by
  obtain ⟨c, hd, -⟩ := deserialize_node_res h
  rw [cellToParent_eq hd, if_neg (Int.ne_of_lt ha), if_pos ha]

theorem cellToParent_node_none {r i : Nat} (h : IsNode (r + 1) i) :
    cellToParent (node (r + 1) i) none = .ok (node r (i / kids (r + 1))) := by
  rw [cellToParent_none (deserialize_node h), ← fan_succ h.1]
  exact cellToParent_node h (Nat.le_succ r) (Int.sub_add_cancel _ 1)

theorem node_div_top {r : Nat} (h2 : r < 2) (i : Nat) : node (r + 1) i / 2 ^ 58 = i := by
  have hm := mpos_low r (Nat.le_of_lt h2)
  rw [node_succ, stride, if_pos h2, Nat.add_comm, Nat.add_mul_div_right _ _ (Nat.two_pow_pos 58),
    Nat.div_eq_of_lt (Nat.pow_lt_pow_right (by decide) (Nat.lt_succ_of_le (Nat.le.intro hm))), Nat.zero_add]

theorem isFirstChild_node {r i : Nat} (h : IsNode (r + 1) i) :
    isFirstChild (node (r + 1) i) (some (r : Int)) = .ok (decide (i % kids (r + 1) = 0)) := by
  have hr : r ≤ 29 := Nat.le_of_succ_le_succ h.1
  simp only [isFirstChild, Option.getD_some, HSB_eq, MAXR_eq]
  unfold kids
  by_cases h2 : r < 2
  · rw [if_pos (by omega), shr_58, bind_ok, node_div_top h2, beq_eq_decide]
    have : r = 0 ∨ r = 1 := by omega
    rcases this with rfl | rfl <;> rfl
  · have hm := mpos_high r (by omega) hr
    rw [if_neg (by omega), shl_eq 3 (mpos r + 1) (by omega), bind_ok, node_succ, stride, if_neg h2, and_mask,
      if_neg (by omega), if_neg (by omega), beq_eq_decide]
    exact congrArg Except.ok (decide_eq_decide.2 (by rw [Nat.mul_eq_zero]; exact or_iff_left (Nat.two_pow_pos _).ne'))

theorem getStride_eq {r : Nat} (hr : r ≤ 29) : getStride (r : Int) = .ok (stride r) := by
  unfold getStride stride
  rw [HSB_eq, MAXR_eq]
  by_cases h2 : r < 2
  · rw [if_pos (by omega), if_pos h2, shl_58, Nat.one_mul]
  · have hm := mpos_high r (by omega) hr
    rw [if_neg (by omega), if_neg h2, shl_eq 1 (mpos r + 1) (by omega), Nat.one_mul]

theorem expectedChildren_eq (r : Nat) : expectedChildren (r : Int) = kids (r + 1) := by
  unfold expectedChildren
  rw [CFHR_eq]
  rcases r with _ | _ | r
  · rfl
  · rfl
  · rw [if_pos (by omega)]
    rfl

end A5
