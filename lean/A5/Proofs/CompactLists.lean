/-
  What `uncompact` and `compact` do to lists of arbitrary ids (no validity assumed): the pre-allocated, offset-filled
  result of `uncompact` is the concatenation of the blocks; the initial sort of `compact` keeps the members, sorts by key and drops duplicates; a pass
  never lengthens the list, shortens it when it reports a change and leaves it as it is otherwise.
-/
import A5.Proofs.Ids
import A5.Proofs.PyM

namespace A5

theorem writeBlock_step (pre : List Nat) (m c : Nat) (cs : List Nat) :
    writeBlock (pre ++ List.replicate (m + 1) 0) pre.length (c :: cs) =
      writeBlock ((pre ++ [c]) ++ List.replicate m 0) (pre ++ [c]).length cs := by
  rw [writeBlock, if_pos (by rw [List.length_append, List.length_replicate]; exact Nat.lt_add_of_pos_right (Nat.succ_pos m)),
    List.replicate_succ, List.set_append_right _ _ (Nat.le_refl _), Nat.sub_self, List.set_cons_zero, List.length_append,
    List.length_singleton, List.append_assoc, List.singleton_append]

theorem writeBlock_fill (pre cs : List Nat) (m : Nat) (h : cs.length ≤ m) :
    writeBlock (pre ++ List.replicate m 0) pre.length cs = .ok (pre ++ cs ++ List.replicate (m - cs.length) 0) := by
  induction cs generalizing pre m with
  | nil => rw [writeBlock, List.append_nil, List.length_nil, Nat.sub_zero]
  | cons c cs ih =>
    obtain ⟨m, rfl⟩ : ∃ m', m = m' + 1 := Nat.exists_eq_add_one.2 (Nat.lt_of_lt_of_le (Nat.succ_pos _) h)
    rw [writeBlock_step, ih _ _ (Nat.le_of_succ_le_succ h), List.length_cons, Nat.succ_sub_succ, List.append_assoc pre,
      List.singleton_append]

/-- the block the second loop writes for one cell -/
def blockOf (t : Int) (cell : Nat) (r : Int) : PyM (List Nat) :=
  if getNumChildren r t = 1 then .ok [cell] else cellToChildren cell (some t)

theorem uncompactFill_cons (t : Int) (cell : Nat) (r : Int) (rest : List (Nat × Int)) (result : List Nat) (offset : Nat) :
    uncompactFill t ((cell, r) :: rest) result offset =
      (blockOf t cell r).bind fun B => (writeBlock result offset B).bind fun result' =>
        uncompactFill t rest result' (offset + getNumChildren r t) := by
  rw [uncompactFill, blockOf]
  split
  · rfl
  · cases cellToChildren cell (some t) <;> rfl

theorem uncompactFill_spec (t : Int) (g : Nat × Int → List Nat) (items : List (Nat × Int))
    (hb : ∀ it ∈ items, blockOf t it.1 it.2 = .ok (g it) ∧ (g it).length = getNumChildren it.2 t)
    (pre : List Nat) (m : Nat) (hm : (items.flatMap g).length ≤ m) :
    uncompactFill t items (pre ++ List.replicate m 0) pre.length =
      .ok (pre ++ items.flatMap g ++ List.replicate (m - (items.flatMap g).length) 0) := by
  induction items generalizing pre m with
  | nil => rw [uncompactFill, List.flatMap_nil, List.append_nil, List.length_nil, Nat.sub_zero]
  | cons it items ih =>
    obtain ⟨hblk, hlen⟩ := hb it List.mem_cons_self
    rw [List.flatMap_cons, List.length_append] at hm
    have := ih (fun x hx => hb x (List.mem_cons_of_mem _ hx)) (pre ++ g it) (m - (g it).length) (Nat.le_sub_of_add_le' hm)
    rw [List.length_append] at this
    rw [uncompactFill_cons, hblk, bind_ok, writeBlock_fill pre _ m (Nat.le_trans (Nat.le_add_right _ _) hm), bind_ok, ← hlen,
      this, List.flatMap_cons, List.length_append, Nat.sub_sub, List.append_assoc pre]

theorem uncompactResolutions_ok (t : Int) (cells : List Nat) (h : ∀ c ∈ cells, getResolution c ≤ t) :
    uncompactResolutions t cells = .ok (cells.map getResolution) := by
  unfold uncompactResolutions
  apply mapM_ok
  intro c hc
  rw [if_neg (Int.not_lt.2 (Int.sub_nonneg_of_le (h c hc)))]

theorem uncompactResolutions_err (t : Int) (cells : List Nat) (h : ∃ c ∈ cells, t < getResolution c) :
    uncompactResolutions t cells = .error .value := by
  obtain ⟨c, hc, hlt⟩ := h
  unfold uncompactResolutions
  induction cells with
  | nil => cases hc
  | cons a l ih =>
    rw [List.mapM_cons]
    by_cases ha : t < getResolution a
    · rw [if_pos (Int.sub_neg_of_lt ha)]
      rfl
    · rw [if_neg (mt Int.lt_of_sub_neg ha)]
      obtain rfl | hc := List.mem_cons.1 hc
      · exact absurd hlt ha
      · rw [ih hc]
        rfl

theorem uncompact_ok (t : Int) (cells : List Nat) (f : Nat → List Nat)
    (hres : ∀ c ∈ cells, getResolution c ≤ t)
    (hb : ∀ c ∈ cells, blockOf t c (getResolution c) = .ok (f c) ∧ (f c).length = getNumChildren (getResolution c) t) :
    uncompact cells t = .ok (cells.flatMap f) := by
  have hlen : ((cells.map getResolution).map fun r => getNumChildren r t).sum = (cells.flatMap f).length := by
    rw [List.length_flatMap, List.map_map]
    exact congrArg List.sum (List.map_congr_left fun c hc => (hb c hc).2.symm)
  unfold uncompact
  rw [uncompactResolutions_ok t cells hres, ok_bind]
  simp only
  rw [hlen, ← List.map_prod_left_eq_zip]
  have := uncompactFill_spec t (fun it => f it.1) (cells.map fun c => (c, getResolution c))
    (by intro it hit; obtain ⟨c, hc, rfl⟩ := List.mem_map.1 hit; exact hb c hc) [] _ (Nat.le_refl _)
  rwa [List.flatMap_map, Nat.sub_self, List.replicate_zero, List.append_nil, List.nil_append, List.nil_append] at this

theorem mem_insertKey (key : Nat → Nat) (x y : Nat) (l : List Nat) : y ∈ insertKey key x l ↔ y = x ∨ y ∈ l := by
  induction l with
  | nil => simp [insertKey]
  | cons a l ih =>
    unfold insertKey
    split
    · subst x; simp
    · split
      · simp
      · simp [ih, or_left_comm]

theorem mem_sortedSet (key : Nat → Nat) (x : Nat) (l : List Nat) : x ∈ sortedSet key l ↔ x ∈ l := by
  unfold sortedSet
  have : ∀ (acc : List Nat), x ∈ l.foldl (fun acc y => insertKey key y acc) acc ↔ x ∈ l ∨ x ∈ acc := by
    induction l with
    | nil => intro acc; simp
    | cons a l ih => intro acc; simp [ih, mem_insertKey, or_assoc, or_left_comm]
  rw [this]; simp

theorem insertKey_pairwise (key : Nat → Nat) (x : Nat) {acc : List Nat}
    (hs : acc.Pairwise fun a b => key a ≤ key b ∧ a ≠ b) :
    (insertKey key x acc).Pairwise fun a b => key a ≤ key b ∧ a ≠ b := by
  induction acc with
  | nil => exact List.pairwise_singleton _ _
  | cons y ys ih =>
    obtain ⟨h1, h2⟩ := List.pairwise_cons.1 hs
    unfold insertKey
    by_cases hxy : x = y
    · rw [if_pos hxy]
      exact hs
    · rw [if_neg hxy]
      by_cases hk : key x < key y
      · rw [if_pos hk]
        refine List.pairwise_cons.2 ⟨fun z hz => ?_, hs⟩
        have : key x < key z := by
          rcases List.mem_cons.1 hz with rfl | hz
          · exact hk
          · exact Nat.lt_of_lt_of_le hk (h1 z hz).1
        exact ⟨Nat.le_of_lt this, ne_of_apply_ne key (Nat.ne_of_lt this)⟩
      · rw [if_neg hk]
        refine List.pairwise_cons.2 ⟨fun z hz => ?_, ih h2⟩
        rcases (mem_insertKey key x z ys).1 hz with rfl | hz
        · exact ⟨Nat.le_of_not_lt hk, Ne.symm hxy⟩
        · exact h1 z hz

theorem sortedSet_pairwise (key : Nat → Nat) (l : List Nat) :
    (sortedSet key l).Pairwise fun a b => key a ≤ key b ∧ a ≠ b := by
  unfold sortedSet
  rw [List.foldl_eq_foldr_reverse]
  induction l.reverse with
  | nil => exact List.Pairwise.nil
  | cons a l ih => exact insertKey_pairwise key a ih

theorem expectedChildren_ge (r : Int) : 4 ≤ expectedChildren r := by
  unfold expectedChildren
  split
  · exact Nat.le_refl 4
  · split <;> decide

theorem hasAllSiblings_true {cell : Nat} {r : Int} {rest : List Nat} (h : hasAllSiblings cell r rest = .ok true) :
    expectedChildren r ≤ rest.length + 1 := by
  unfold hasAllSiblings at h
  dsimp only at h
  split at h
  · assumption
  · cases h

theorem scanPass_cons (cell : Nat) (rest : List Nat) :
    scanPass (cell :: rest) =
      if getResolution cell < 0 then scanPass rest >>= fun p => .ok (cell :: p.1, p.2)
      else hasAllSiblings cell (getResolution cell) rest >>= fun hasAll =>
        if hasAll then cellToParent cell none >>= fun parent =>
          scanPass (rest.drop (expectedChildren (getResolution cell) - 1)) >>= fun p => .ok (parent :: p.1, true)
        else scanPass rest >>= fun p => .ok (cell :: p.1, p.2) := by
  rw [scanPass]
  rfl

theorem scanPass_length (cur : List Nat) : ∀ out ch, scanPass cur = .ok (out, ch) →
    out.length ≤ cur.length ∧ (ch = true → out.length < cur.length) ∧ (ch = false → out = cur) := by
  induction cur using scanPass.induct with
  | case1 =>
    intro out ch h
    rw [scanPass] at h
    cases h
    exact ⟨Nat.le_refl _, Bool.noConfusion, fun _ => rfl⟩
  | case2 cell rest r hr ih =>
    intro out ch h
    rw [scanPass, if_pos hr] at h
    obtain ⟨⟨o, c⟩, hs, h⟩ := bind_eq_ok h
    cases h
    have := ih _ _ hs
    exact ⟨Nat.succ_le_succ this.1, fun hc => Nat.succ_lt_succ (this.2.1 hc), fun hc => by rw [this.2.2 hc]⟩
  | case3 cell rest r hr ihm ih =>
    intro out ch h
    rw [scanPass, if_neg hr] at h
    obtain ⟨b, hb, h⟩ := bind_eq_ok h
    cases b with
    | false =>
      obtain ⟨⟨o, c⟩, hs, h⟩ := bind_eq_ok h
      cases h
      have := ih _ _ hs
      exact ⟨Nat.succ_le_succ this.1, fun hc => Nat.succ_lt_succ (this.2.1 hc), fun hc => by rw [this.2.2 hc]⟩
    | true =>
      obtain ⟨parent, -, h⟩ := bind_eq_ok h
      obtain ⟨⟨o, c⟩, hs, h⟩ := bind_eq_ok h
      cases h
      have := (ihm _ _ hs).1
      -- `hb` spells the resolution `getResolution cell`, `ihm` spells it `r`: `omega` needs one spelling
      have hg : expectedChildren r ≤ rest.length + 1 := hasAllSiblings_true hb
      have hk := expectedChildren_ge r
      rw [List.length_drop] at this
      have hlt : o.length < rest.length := by omega
      exact ⟨Nat.succ_le_succ hlt.le, fun _ => Nat.succ_lt_succ hlt, Bool.noConfusion⟩

end A5
