/-
  Source-level tie for `compact`: the translated function (sort + de-duplication, the two nested `while` loops with
  `continue`/`break`, index-based scanning) computes what the model's structurally recursive `compact` computes,
  for every list of ids.
-/
import A5.Proofs.SrcBridgeLoops
import A5.Proofs.CompactLists

namespace A5.Bridge
open A5

def emb (key : Nat → Nat) (l : List Nat) : List (Int × Int) := l.map fun c => ((key c : Int), (c : Int))

theorem insertKV_emb (key : Nat → Nat) (x : Nat) (acc : List Nat) :
    Py.insertKV ((key x : Int), (x : Int)) (emb key acc) = emb key (insertKey key x acc) := by
  induction acc with
  | nil => rfl
  | cons y ys ih =>
    unfold emb at ih ⊢
    simp only [List.map_cons, Py.insertKV, insertKey, Int.natCast_inj, Int.ofNat_lt, ih, apply_ite (List.map _)]

theorem foldl_emb (key : Nat → Nat) (cells acc : List Nat) :
    (emb key cells).foldl (fun a kx => Py.insertKV kx a) (emb key acc)
      = emb key (cells.foldl (fun a x => insertKey key x a) acc) := by
  induction cells generalizing acc with
  | nil => rfl
  | cons c cells ih =>
    show (emb key cells).foldl _ (Py.insertKV ((key c : Int), (c : Int)) (emb key acc)) = _
    rw [insertKV_emb]
    exact ih _

theorem sortedSetBy_eq (K : Int → PyM Int) (key : Nat → Nat) (hK : ∀ c : Nat, K c = .ok (key c : Int)) (cells : List Nat) :
    Py.sortedSetBy K (cells.map Int.ofNat) = .ok ((sortedSet key cells).map Int.ofNat) := by
  have hkeys : (cells.map Int.ofNat).mapM (fun x => K x >>= fun k => (pure (k, x) : PyM (Int × Int))) = .ok (emb key cells) := by
    induction cells with
    | nil => rfl
    | cons c cells ih =>
      rw [List.map_cons, List.mapM_cons, ih]
      simp only [bridge, hK]
      rfl
  unfold Py.sortedSetBy sortedSet
  rw [hkeys, bind_ok, pure_ok]
  show Except.ok (((emb key cells).foldl _ (emb key [])).map Prod.snd) = _
  rw [foldl_emb, emb, List.map_map]
  rfl

theorem sortedSet_eq (cells : List Nat) :
    Py.sortedSetBy Src.compact._hierarchical_key (cells.map Int.ofNat)
      = .ok ((sortedSet hierarchicalKey cells).map Int.ofNat) :=
  sortedSetBy_eq _ _ hierarchical_key_eq cells

/-- the loop over any list of offsets `1 + j`, at position `|pre|` of the list; `siblings_eq` puts in `range(1, k)` -/
theorem for3_compact_eq (pre rest : List Nat) (cell stride : Nat) (js : List Nat) (hidx : ∀ j ∈ js, j < rest.length) :
    Src.compact.compact_for3 (js.map fun (j : Nat) => (1 : Int) + (j : Int)) ((pre ++ cell :: rest).map Int.ofNat)
        (pre.length : Int) (cell : Int) (stride : Int) true
      = .ok (js.all fun j => rest[j]? == some (cell + (j + 1) * stride)) := by
  induction js with
  | nil => rfl
  | cons j js ih =>
    have hj := hidx j List.mem_cons_self
    have e1 : (1 : Int) + (j : Int) = ((j + 1 : Nat) : Int) := Int.add_comm 1 j
    rw [List.map_cons, Src.compact.compact_for3]
    simp only [e1, cast_add, ← Nat.cast_mul, listGet_nat, List.getElem?_append_right (Nat.le_add_right _ _),
      Nat.add_sub_cancel_left, List.getElem?_cons_succ, List.getElem?_eq_getElem hj, bind_ok, ne_eq, Nat.cast_inj,
      List.all_cons, Option.some_beq_some, ite_not]
    split
    · rw [ih fun j' hj' => hidx j' (List.mem_cons_of_mem _ hj')]
      simp only [beq_iff_eq.2 ‹_›, Bool.true_and]
    · simp only [beq_eq_false_iff_ne.2 ‹_›, Bool.false_and, pure_ok]

theorem siblings_eq (pre rest : List Nat) (cell k : Nat) (hk : k ≤ rest.length + 1) (stride : Nat) :
    Src.compact.compact_for3 (Py.range2 1 (k : Int)) ((pre ++ cell :: rest).map Int.ofNat)
        (pre.length : Int) (cell : Int) (stride : Int) true
      = .ok (siblingsFollow cell stride k rest) := by
  have hr : Py.range2 1 (k : Int) = (List.range (k - 1)).map fun (j : Nat) => (1 : Int) + (j : Int) := by
    unfold Py.range2
    rw [show ((k : Int) - 1).toNat = k - 1 from Int.toNat_sub k 1]
  rw [hr]
  exact for3_compact_eq pre rest cell stride _ fun j hj =>
    Nat.lt_of_lt_of_le (List.mem_range.1 hj) (Nat.sub_le_of_le_add hk)

theorem expected_cases (r : Int) :
    (if r ≥ (2 : Int) then (4 : Int) else if r = 0 then 12 else 5) = ((expectedChildren r : Nat) : Int) := by
  rw [expectedChildren, CFHR_eq, Nat.cast_ite, Nat.cast_ite]
  rfl

/-- what `compact_loop2` returns from position `|pre|` of `pre ++ rem` on -/
def Scans (rem : List Nat) : Prop :=
  ∀ (pre res : List Nat) (ch : Bool) (fuel : Nat), rem.length < fuel →
    Src.compact.compact_loop2 fuel ((pre ++ rem).map Int.ofNat) (res.map Int.ofNat) (pre.length : Int) ch
      = (scanPass rem).map (fun p => ((res ++ p.1).map Int.ofNat, ((pre ++ rem).length : Int), ch || p.2))

/-- one turn of the loop body: `mid` are the cells it has just skipped, `x` the cell it appended -/
theorem Scans.advance {rem : List Nat} (ih : Scans rem) (pre mid res : List Nat) (x : Nat) (b : Bool) (f : Nat)
    (hf : rem.length < f) :
    Src.compact.compact_loop2 f ((pre ++ (mid ++ rem)).map Int.ofNat) (res.map Int.ofNat ++ [(x : Int)])
        ((pre.length : Int) + (mid.length : Int)) b
      = scanPass rem >>= fun p => .ok ((res ++ x :: p.1).map Int.ofNat, ((pre ++ (mid ++ rem)).length : Int), b || p.2) := by
  have := ih (pre ++ mid) (res ++ [x]) b f hf
  simp only [List.append_assoc, List.map_append, List.length_append, Nat.cast_add, List.map_cons, List.map_nil,
    List.singleton_append] at this ⊢
  refine this.trans ?_
  cases scanPass rem <;> rfl

theorem Scans.cons {cell : Nat} {rest : List Nat} (ih : Scans rest)
    (ihm : ¬ getResolution cell < 0 → Scans (rest.drop (expectedChildren (getResolution cell) - 1))) :
    Scans (cell :: rest) := by
  intro pre res ch fuel hfuel
  obtain ⟨f, rfl⟩ := Nat.exists_eq_add_one.2 (Nat.zero_lt_of_lt hfuel)
  have hf : rest.length < f := Nat.lt_of_succ_lt_succ hfuel
  have hlt : (pre.length : Int) < Int.ofNat ((pre ++ cell :: rest).map Int.ofNat).length := by
    rw [List.length_map, List.length_append, List.length_cons]
    exact Int.ofNat_lt.2 (Nat.lt_add_of_pos_right (Nat.succ_pos _))
  have hget : (pre ++ cell :: rest)[pre.length]? = some cell := by
    rw [List.getElem?_append_right (Nat.le_refl _), Nat.sub_self, List.getElem?_cons_zero]
  have adv : ∀ b, Src.compact.compact_loop2 f ((pre ++ cell :: rest).map Int.ofNat) (res.map Int.ofNat ++ [(cell : Int)])
      ((pre.length : Int) + 1) b = _ := fun b => ih.advance pre [cell] res cell b f hf
  have hguard : ((pre.length + expectedChildren (getResolution cell) : Nat) : Int)
      ≤ (((pre ++ cell :: rest).map Int.ofNat).length : Nat) ↔ expectedChildren (getResolution cell) ≤ rest.length + 1 := by
    rw [Nat.cast_le, List.length_map, List.length_append, List.length_cons, Nat.add_le_add_iff_left]
  rw [Src.compact.compact_loop2, if_pos hlt, scanPass_cons]
  simp only [bridge, listGet_nat, hget, get_resolution_eq, expected_cases, hasAllSiblings, hguard, is_first_child_eq,
    get_stride_eq, cell_to_parent_eq, adv, Bool.false_eq_true, if_false, List.singleton_append]
  -- Both sides are `if resolution < 0 … else if i + expected_children <= len … else …` with equal outer branches:
  -- `ite_else` enters the first `else`, `ite_congr` the `then` of the second, where the sibling group is tested.
  refine ite_else fun hneg => ite_congr rfl (fun hg => ?_) fun _ => rfl
  have advm : ∀ parent : Nat, Src.compact.compact_loop2 f ((pre ++ cell :: rest).map Int.ofNat)
      (res.map Int.ofNat ++ [(parent : Int)]) ((pre.length + expectedChildren (getResolution cell) : Nat) : Int) true
      = scanPass (rest.drop (expectedChildren (getResolution cell) - 1)) >>= fun p =>
          .ok ((res ++ parent :: p.1).map Int.ofNat, ((pre ++ cell :: rest).length : Int), true || p.2) := by
    intro parent
    have := (ihm hneg).advance pre (cell :: rest.take (expectedChildren (getResolution cell) - 1)) res parent true f
      (Nat.lt_of_le_of_lt (List.drop_sublist _ _).length_le hf)
    rw [List.cons_append, List.take_append_drop, List.length_cons, List.length_take_of_le (Nat.sub_le_of_le_add hg),
      Nat.sub_add_cancel (Nat.le_trans (by decide) (expectedChildren_ge _)), cast_add] at this
    exact this
  simp only [bridge, siblings_eq pre rest cell _ hg, advm, Bool.or_true, Bool.true_or]

theorem scans (rem : List Nat) : Scans rem := by
  induction rem using scanPass.induct with
  | case1 =>
    intro pre res ch fuel hfuel
    obtain ⟨f, rfl⟩ := Nat.exists_eq_add_one.2 (Nat.zero_lt_of_lt hfuel)
    rw [Src.compact.compact_loop2, if_neg (by rw [List.append_nil, List.length_map]; exact Int.lt_irrefl _), scanPass]
    simp only [pure_ok, map_ok, List.append_nil, List.map_append, List.map_nil, Bool.or_false]
  | case2 cell rest r hr ih => exact ih.cons fun h => absurd hr h
  | case3 cell rest r hr ihm ih => exact ih.cons fun _ => ihm

theorem loop2_eq : ∀ (n : Nat) (rem pre res : List Nat) (ch : Bool) (fuel : Nat),
    rem.length = n → rem.length < fuel →
    Src.compact.compact_loop2 fuel ((pre ++ rem).map Int.ofNat) (res.map Int.ofNat) (pre.length : Int) ch
      = (scanPass rem).map (fun p => ((res ++ p.1).map Int.ofNat, ((pre ++ rem).length : Int), ch || p.2)) :=
  fun _ rem pre res ch fuel _ => scans rem pre res ch fuel

theorem scan_len : ∀ (n : Nat) (cur out : List Nat) (ch : Bool), cur.length = n → scanPass cur = .ok (out, ch) →
    out.length ≤ cur.length ∧ (ch = true → out.length < cur.length) :=
  fun _ cur out ch _ h => ⟨(scanPass_length cur out ch h).1, (scanPass_length cur out ch h).2.1⟩

/-- `compact_loop1` spends one unit of fuel on every test of `changed`, the last one, which
    leaves the loop, included; `compactLoop` spends one on every pass: hence `fuel + 1` against `fuel`.
    The fuel in `h2` is spelt as the translated `compact_loop1` hands it to `compact_loop2`. -/
theorem loop1_eq : ∀ (fuel : Nat) (cur : List Nat), cur.length < fuel →
    Src.compact.compact_loop1 (fuel + 1) true (cur.map Int.ofNat)
      = (compactLoop fuel cur).map (fun out => (false, out.map Int.ofNat)) := by
  intro fuel
  induction fuel with
  | zero => exact fun cur h => absurd h (Nat.not_lt_zero _)
  | succ f ih =>
    intro cur hlen
    have h2 := scans cur [] [] false (Int.ofNat (cur.map Int.ofNat).length + 2).toNat (by
      rw [List.length_map, Int.ofNat_eq_natCast]
      omega)
    rw [Src.compact.compact_loop1, compactLoop, if_pos rfl]
    simp only [List.nil_append, List.length_nil, List.map_nil, Nat.cast_zero] at h2
    simp only [h2]
    cases hs : scanPass cur with
    | error e => rfl
    | ok p =>
      obtain ⟨out, c⟩ := p
      -- by rewriting: matching the goal against `ih` with the `map` and the two `>>=` still there is slow
      rw [map_ok, bind_ok, bind_ok]
      cases c with
      | true => exact ih out (Nat.lt_of_lt_of_le ((scanPass_length cur out true hs).2.1 rfl) (Nat.le_of_lt_succ hlen))
      | false => rfl

theorem compact_eq (cells : List Nat) :
    Src.compact.compact (cells.map Int.ofNat) = (compact cells).map (List.map Int.ofNat) := by
  unfold Src.compact.compact compact
  cases cells with
  | nil => rfl
  | cons c cs =>
    have h1 : ¬ ((((c :: cs).map Int.ofNat).length : Int) = 0) := by
      rw [List.length_map, List.length_cons]
      exact Int.natCast_ne_zero.2 (Nat.succ_ne_zero _)
    have hfuel : ∀ L : List Nat, (((L.map Int.ofNat).length : Int) + 2).toNat = L.length + 1 + 1 := by
      intro L
      rw [List.length_map]
      rfl
    simp only [if_neg h1, sortedSet_eq, bridge, hfuel, loop1_eq _ _ (Nat.lt_succ_self _), List.isEmpty_cons,
      Bool.false_eq_true, if_false, map_eq_bind]

end A5.Bridge
