/-
  C02, planar half of "the centre lies strictly inside the cell's own ring", and C12, "the planar ring is strictly convex".  Both say
  that a list of orientation determinants `cross(·, ·, ·)` has one strict sign.  An affine map multiplies every such determinant by its
  own determinant (`aff_cross`) and commutes with the vertex mean (`aff_mean5`); reading the vertices backwards negates them.  A list
  keeps one strict sign under both, so the two statements carry over from the base pentagon — decided by the kernel on the exact
  rational values of the double constants — to every placed pentagon (`place_naff`).
-/
import A5.Proofs.Congruence
import A5.Proofs.PlanarConst

namespace A5.Planar
open A5.Hilbert

def cross (a b c : ℚ × ℚ) : ℚ := (b.1 - a.1) * (c.2 - a.2) - (b.2 - a.2) * (c.1 - a.1)

/-- vertex mean of a five-vertex shape (`get_center`) -/
def mean5 (p : List (ℚ × ℚ)) : ℚ × ℚ := ((p.map (·.1)).sum / 5, (p.map (·.2)).sum / 5)

def OneSign (l : List ℚ) : Prop := (∀ x ∈ l, 0 < x) ∨ (∀ x ∈ l, x < 0)

def edgeCross (p : List (ℚ × ℚ)) (c : ℚ × ℚ) : List ℚ :=
  (List.range p.length).map fun i => cross (p.getD i (0, 0)) (p.getD ((i + 1) % p.length) (0, 0)) c

def StrictlyInside (p : List (ℚ × ℚ)) (c : ℚ × ℚ) : Prop :=
  (∀ x ∈ edgeCross p c, 0 < x) ∨ (∀ x ∈ edgeCross p c, x < 0)

theorem strictlyInside_iff {p : List (ℚ × ℚ)} {c : ℚ × ℚ} : StrictlyInside p c ↔ OneSign (edgeCross p c) := Iff.rfl

def turns (p : List (ℚ × ℚ)) : List ℚ :=
  (List.range p.length).map fun i => cross (p.getD i (0, 0)) (p.getD ((i + 1) % p.length) (0, 0)) (p.getD ((i + 2) % p.length) (0, 0))

def StrictlyConvex (p : List (ℚ × ℚ)) : Prop := (∀ x ∈ turns p, 0 < x) ∨ (∀ x ∈ turns p, x < 0)

theorem strictlyConvex_iff {p : List (ℚ × ℚ)} : StrictlyConvex p ↔ OneSign (turns p) := Iff.rfl

theorem OneSign.map_mul {l : List ℚ} {d : ℚ} (hd : d ≠ 0) (h : OneSign l) : OneSign (l.map (d * ·)) := by
  simp only [OneSign, List.forall_mem_map]
  rcases lt_or_gt_of_ne hd with hd | hd
  · exact h.symm.imp (fun h x hx => mul_pos_of_neg_of_neg hd (h x hx)) (fun h x hx => mul_neg_of_neg_of_pos hd (h x hx))
  · exact h.imp (fun h x hx => mul_pos hd (h x hx)) (fun h x hx => mul_neg_of_pos_of_neg hd (h x hx))

theorem OneSign.subset {l l' : List ℚ} (hs : l' ⊆ l) (h : OneSign l) : OneSign l' :=
  h.imp (fun h x hx => h x (hs hx)) (fun h x hx => h x (hs hx))

theorem OneSign.reverse_cycle {l : List ℚ} (h : OneSign l) (k : Nat) : OneSign (l.reverse.drop k ++ l.reverse.take k) :=
  h.subset fun _ hx => List.mem_reverse.1 ((List.mem_append.1 hx).elim List.mem_of_mem_drop List.mem_of_mem_take)

theorem aff_cross {T : ℚ × ℚ → ℚ × ℚ} {d : ℚ} (h : IsAff T d) (a b c : ℚ × ℚ) : cross (T a) (T b) (T c) = d * cross a b c := by
  obtain ⟨m11, m12, m21, m22, t1, t2, hT, hd⟩ := h
  rw [hT a, hT b, hT c, ← hd]; unfold cross; ring

theorem aff_mean5 {T : ℚ × ℚ → ℚ × ℚ} {d : ℚ} (h : IsAff T d) (p : List (ℚ × ℚ)) (hp : p.length = 5) : mean5 (p.map T) = T (mean5 p) :=
  cen_map h p hp

theorem getD_map_lt {β γ : Type} (f : β → γ) (p : List β) {i : Nat} (hi : i < p.length) (d : γ) (d' : β) :
    (p.map f).getD i d = f (p.getD i d') := by
  simp [List.getD_eq_getElem?_getD, hi]

theorem edgeCross_map {T : ℚ × ℚ → ℚ × ℚ} {d : ℚ} (hT : IsAff T d) (p : List (ℚ × ℚ)) (c : ℚ × ℚ) :
    edgeCross (p.map T) (T c) = (edgeCross p c).map (d * ·) := by
  unfold edgeCross
  rw [List.length_map, List.map_map]
  apply List.map_congr_left
  intro i hi
  have hi := List.mem_range.1 hi
  rw [Function.comp, getD_map_lt T p hi _ (0, 0), getD_map_lt T p (Nat.mod_lt _ (Nat.zero_lt_of_lt hi)) _ (0, 0), aff_cross hT]

theorem turns_map {T : ℚ × ℚ → ℚ × ℚ} {d : ℚ} (hT : IsAff T d) (p : List (ℚ × ℚ)) :
    turns (p.map T) = (turns p).map (d * ·) := by
  unfold turns
  rw [List.length_map, List.map_map]
  apply List.map_congr_left
  intro i hi
  have hi := List.mem_range.1 hi
  rw [Function.comp, getD_map_lt T p hi _ (0, 0), getD_map_lt T p (Nat.mod_lt _ (Nat.zero_lt_of_lt hi)) _ (0, 0),
    getD_map_lt T p (Nat.mod_lt _ (Nat.zero_lt_of_lt hi)) _ (0, 0), aff_cross hT]

theorem mean5_reverse (p : List (ℚ × ℚ)) : mean5 p.reverse = mean5 p := by
  simp [mean5, List.sum_reverse]

theorem edgeCross5 (a b c d e q : ℚ × ℚ) :
    edgeCross [a, b, c, d, e] q = [cross a b q, cross b c q, cross c d q, cross d e q, cross e a q] := by
  simp only [edgeCross, List.length_cons, List.length_nil]    -- `rfl` evaluates `% n` once `n` is a sum of numerals
  rfl

theorem turns5 (a b c d e : ℚ × ℚ) :
    turns [a, b, c, d, e] = [cross a b c, cross b c d, cross c d e, cross d e a, cross e a b] := by
  simp only [turns, List.length_cons, List.length_nil]
  rfl

theorem cross_swap (a b c : ℚ × ℚ) : cross b a c = -1 * cross a b c := by
  unfold cross
  ring

theorem cross_rev (a b c : ℚ × ℚ) : cross c b a = -1 * cross a b c := by
  unfold cross
  ring

theorem edgeCross_reverse (p : List (ℚ × ℚ)) (hp : p.length = 5) (q : ℚ × ℚ) :
    edgeCross p.reverse q = ((edgeCross p q).map (-1 * ·)).reverse.drop 1 ++ ((edgeCross p q).map (-1 * ·)).reverse.take 1 := by
  obtain ⟨a, b, c, d, e, rfl⟩ := len5 p hp
  simp only [List.reverse_cons, List.reverse_nil, List.nil_append, List.cons_append, edgeCross5, List.map]
  rw [cross_swap d e, cross_swap c d, cross_swap b c, cross_swap a b, cross_swap e a]
  rfl

theorem turns_reverse (p : List (ℚ × ℚ)) (hp : p.length = 5) :
    turns p.reverse = ((turns p).map (-1 * ·)).reverse.drop 2 ++ ((turns p).map (-1 * ·)).reverse.take 2 := by
  obtain ⟨a, b, c, d, e, rfl⟩ := len5 p hp
  simp only [List.reverse_cons, List.reverse_nil, List.nil_append, List.cons_append, turns5, List.map]
  rw [cross_rev c d e, cross_rev b c d, cross_rev a b c, cross_rev e a b, cross_rev d e a]
  rfl

def Aff (p q : List (ℚ × ℚ)) (d : ℚ) : Prop := ∃ T, IsAff T d ∧ (q = p.map T ∨ q = p.reverse.map T)

def NAff (p q : List (ℚ × ℚ)) : Prop := ∃ d, d ≠ 0 ∧ Aff p q d

theorem place_naff (base : List (ℚ × ℚ)) (basis : ℚ × ℚ × ℚ × ℚ) (sl sr : ℚ × ℚ) (rot : ℚ × ℚ × ℚ × ℚ)
    (hdet : rot.1 * rot.2.2.2 - rot.2.1 * rot.2.2.1 ≠ 0) (h : Nat) (a : Anchor) :
    NAff (mkShape base) (place base basis sl sr rot h a) := by
  refine ⟨_, ?_, _, placeMap_aff basis sl sr rot h a.i a.j a.flips a.k, place_cases base basis sl sr rot h a⟩
  exact mul_ne_zero (mul_ne_zero hdet (one_div_ne_zero (pow_ne_zero h four_ne_zero))) (left_ne_zero_of_mul_eq_one (sgn_mul_self _))

theorem inside_of_aff {p q : List (ℚ × ℚ)} (hp : p.length = 5) (h : NAff p q)
    (hin : StrictlyInside p (mean5 p)) : StrictlyInside q (mean5 q) := by
  rw [strictlyInside_iff] at hin
  obtain ⟨d, hd, T, hT, rfl | rfl⟩ := h
  · rw [aff_mean5 hT p hp, strictlyInside_iff, edgeCross_map hT]
    exact hin.map_mul hd
  · rw [aff_mean5 hT _ (by simpa using hp), mean5_reverse, strictlyInside_iff, edgeCross_map hT, edgeCross_reverse p hp]
    exact ((hin.map_mul (by norm_num)).reverse_cycle 1).map_mul hd

theorem convex_of_aff {p q : List (ℚ × ℚ)} (hp : p.length = 5) (h : NAff p q)
    (hin : StrictlyConvex p) : StrictlyConvex q := by
  rw [strictlyConvex_iff] at hin
  obtain ⟨d, hd, T, hT, rfl | rfl⟩ := h
  · rw [strictlyConvex_iff, turns_map hT]
    exact hin.map_mul hd
  · rw [strictlyConvex_iff, turns_map hT, turns_reverse p hp]
    exact ((hin.map_mul (by norm_num)).reverse_cycle 2).map_mul hd

theorem baseQ_centre_inside : StrictlyInside (mkShape baseQ) (mean5 (mkShape baseQ)) := by
  unfold StrictlyInside
  right          -- shapes are stored clockwise (`get_area() >= 0` for the library's shoelace sign)
  decide +kernel

theorem baseQ_convex : StrictlyConvex (mkShape baseQ) := by
  unfold StrictlyConvex
  right
  decide +kernel

end A5.Planar
