/-
  `deserialize` and `serialize` on well-formed fields (symbolic S, every resolution 0..29); valid cell records, valid ids
  and the round trips between them.
-/
import A5.Proofs.Ids
import A5.Proofs.PyM

namespace A5
open A5.Bits

def decodeCell (t S r : Nat) : Cell :=
  { origin := if r = 0 then t else t / 5, segment := if r = 0 then 0 else ((t : Int) + firstQuintant (t / 5)) % 5,
    S := S, res := r }

theorem deserialize_encId {t S r : Nat} (h : WF t S r) : deserialize (encId t S r) = .ok (decodeCell t S r) := by
  have hres := getResolution_encId h
  have htop := encId_top h
  have hlow := encId_low h
  obtain ⟨hr, hS, ht⟩ := h
  unfold deserialize decodeCell
  simp only [hres, htop, FHR_eq, HSB_eq, REMOVAL_MASK_eq]
  rw [if_neg (by omega)]
  by_cases h0 : r = 0
  · subst h0
    rw [npos_small 0 S Nat.zero_lt_two hS, if_pos rfl, originAt_ok t ht]
    rfl
  · rw [if_neg h0] at ht
    rw [if_neg (Int.natCast_ne_zero.2 h0), originAt_ok _ (Nat.div_lt_of_lt_mul ht), if_neg h0, if_neg h0, ok_bind, pure_bind]
    by_cases h2 : (r : Int) < 2
    · rw [npos_small r S (Int.ofNat_lt.1 h2) hS, if_pos h2]
      rfl
    · have hm := mpos_high r (by omega) hr
      rw [if_neg h2, shr_eq _ (mpos r + 1) (by omega), Nat.and_two_pow_sub_one_eq_mod, hlow, low_div_pow]
      rfl

def segN (o : Nat) (s : Int) : Nat := ((s - firstQuintant o + 5) % 5).toNat

/-- top-6 value written by `serialize` -/
def topOf (o : Nat) (sg : Int) (r : Nat) : Nat :=
  if r = 0 then o else 5 * o + ((sg - firstQuintant o + 5) % 5).toNat

theorem topOf_lt (o : Nat) (sg : Int) (r : Nat) (ho : o < 12) : topOf o sg r < (if r = 0 then 12 else 60) := by
  unfold topOf; split
  · exact ho
  · omega

/-- Top value, position and marker land in disjoint bit ranges; below resolution 2 the position field is skipped (and
    `S = 0` is demanded), from 2 on it is `S << (mpos r + 1)`; at resolution 30 the marker would sit at bit −1. -/
theorem serialize_spec (o : Nat) (sg S : Int) (r : Nat) :
    serialize { origin := o, segment := sg, S := S, res := r } =
      if r ≤ 29 ∧ 0 ≤ S ∧ S.toNat < npos r then .ok (encId (topOf o sg r) S.toNat r) else .error .value := by
  unfold serialize
  simp only [MAXR_eq, FHR_eq, HSB_eq]
  -- `if_neg (by omega)` settles the first `if` it meets: the left side's while it has one, then the right side's
  by_cases c1 : (r : Int) > 30
  · rw [if_pos c1, if_neg (by omega)]
  rw [if_neg c1, if_neg (by omega)]
  by_cases c3 : S < 0
  · rw [if_pos c3, if_neg fun h => Int.not_lt.2 h.2.1 c3]
  obtain ⟨S, rfl⟩ := Int.eq_ofNat_of_zero_le (Int.not_lt.1 c3)
  rw [if_neg c3, Int.toNat_natCast]
  have e0 : (if (r : Int) = 0 then shl o 58 else shl (5 * o + ((sg - firstQuintant o + 5) % 5).toNat) 58)
      = .ok (topOf o sg r * 2 ^ 58) := by
    simp only [topOf, Int.natCast_eq_zero]
    split <;> exact shl_58 _
  by_cases h2 : r < 2
  · have hr : (r : Int) < 2 := Int.ofNat_lt.2 h2
    by_cases c4 : S = 0
    · have hm := mpos_low r (Nat.le_of_lt h2)
      rw [c4, if_neg (·.2 rfl), e0, ok_bind, if_neg (Int.not_le.2 hr), ok_bind, if_pos hr,
        shl_eq 1 (mpos r) (by omega), ok_bind, Nat.one_mul, or_marker_of_dvd (dvd_top _ (Nat.le.intro hm)),
        if_pos ⟨by omega, Int.le_refl 0, npos_pos r⟩, encId, Nat.zero_mul, Nat.add_zero]
      rfl
    · rw [if_pos ⟨hr, Int.natCast_ne_zero.2 c4⟩, if_neg fun h => c4 (npos_small r S h2 h.2.2)]
  · have hr : ¬(r : Int) < 2 := mt Int.ofNat_lt.1 h2
    rw [if_neg (not_and_of_not_left _ hr), e0, ok_bind, if_pos (Int.not_lt.1 hr), if_neg hr,
      shl_eq 1 (2 * (r - 1)) (by omega), Except.bind, Nat.one_mul, Nat.pow_mul, show (2:Nat) ^ 2 = 4 from rfl, npos_pow]
    by_cases c7 : S < 4 ^ (r - 1)
    · rw [if_neg (Int.not_le.2 (Int.ofNat_lt.2 c7))]
      by_cases h29 : r ≤ 29
      · have hm := mpos_high r (Nat.le_of_not_lt h2) h29
        rw [shl_eq _ (mpos r + 1) (by omega), Except.bind, ok_bind, shl_eq 1 (mpos r) (by omega), ok_bind, Nat.one_mul,
          or_marker_of_dvd (Nat.dvd_add (dvd_top _ (mpos_le r h29)) (Nat.dvd_mul_left _ _)),
          if_pos ⟨h29, Int.natCast_nonneg S, c7⟩]
        rfl
      · rw [shl_eq _ 0 (by omega), Except.bind, ok_bind, shl, if_pos (by omega), if_neg (not_and_of_not_left _ h29)]
        rfl
    · rw [if_pos (Int.ofNat_le.2 (Nat.le_of_not_lt c7))]
      exact (if_neg fun h => c7 h.2.2).symm

theorem serialize_ok (o : Nat) (sg : Int) (S r : Nat) (hr : r ≤ 29) (hS : S < npos r) :
    serialize { origin := o, segment := sg, S := (S : Int), res := (r : Int) } = .ok (encId (topOf o sg r) S r) := by
  rw [serialize_spec, Int.toNat_natCast, if_pos ⟨hr, Int.natCast_nonneg S, hS⟩]

/-- resolution 30 = MAX_RESOLUTION cannot be encoded (the known finding) -/
theorem serialize_res30 (o : Nat) (sg S : Int) : serialize { origin := o, segment := sg, S := S, res := 30 } = .error .value :=
  (serialize_spec o sg S 30).trans (if_neg (by omega))

theorem serialize_too_fine (o : Nat) (sg S r : Int) (h : 30 < r) :
    serialize { origin := o, segment := sg, S := S, res := r } = .error .value := by
  unfold serialize
  rw [MAXR_eq, if_pos h]

/-- the hypotheses of C05 (`C05.ValidUpTo 29`), as a structure that the lemmas below can take -/
structure Cell.Valid (c : Cell) : Prop where
  origin : c.origin < 12
  seg : 0 ≤ c.segment ∧ c.segment < 5
  res : 0 ≤ c.res ∧ c.res ≤ 29
  pos : 0 ≤ c.S ∧ c.S.toNat < npos c.res.toNat

/-- canonical form: the segment is not part of a resolution-0 cell's identity -/
def Cell.canon (c : Cell) : Cell := if c.res = 0 then { c with segment := 0 } else c

theorem topOf_div (o : Nat) (sg : Int) (r : Nat) (h0 : r ≠ 0) : topOf o sg r / 5 = o := by
  unfold topOf
  rw [if_neg h0, Nat.mul_add_div (by decide), Nat.div_eq_of_lt (by omega), Nat.add_zero]

theorem decodeCell_topOf (o : Nat) (sg : Int) (S r : Nat) (hs : 0 ≤ sg ∧ sg < 5) :
    decodeCell (topOf o sg r) S r = Cell.canon { origin := o, segment := sg, S := (S : Int), res := (r : Int) } := by
  unfold decodeCell Cell.canon
  by_cases h0 : r = 0
  · subst h0
    rfl
  · rw [if_neg h0, if_neg h0, if_neg (Int.natCast_ne_zero.2 h0), topOf_div o sg r h0]
    unfold topOf
    rw [if_neg h0]
    congr 1
    rw [Int.natCast_add, Int.toNat_of_nonneg (Int.emod_nonneg _ (by decide))]
    omega

theorem serialize_valid (c : Cell) (hv : c.Valid) :
    ∃ t S r, WF t S r ∧ c.res = r ∧ serialize c = .ok (encId t S r) ∧ deserialize (encId t S r) = .ok c.canon := by
  obtain ⟨o, sg, S, r⟩ := c
  obtain ⟨ho, hs, hr, hp⟩ := hv
  simp only at ho hs hr hp
  obtain ⟨r, rfl⟩ := Int.eq_ofNat_of_zero_le hr.1
  obtain ⟨S, rfl⟩ := Int.eq_ofNat_of_zero_le hp.1
  have hr' : r ≤ 29 := Int.ofNat_le.1 hr.2
  have hwf : WF (topOf o sg r) S r := ⟨hr', hp.2, topOf_lt o sg r ho⟩
  refine ⟨_, S, r, hwf, rfl, serialize_ok o sg S r hr' hp.2, ?_⟩
  rw [deserialize_encId hwf, decodeCell_topOf o sg S r hs]

/-- `C05.Statement` for one `Cell.Valid` record -/
theorem des_ser (c : Cell) (hv : c.Valid) :
    ∃ n, serialize c = .ok n ∧ 1 ≤ n ∧ n < 2 ^ 64 ∧ getResolution n = c.res ∧ deserialize n = .ok c.canon := by
  obtain ⟨t, S, r, hwf, hr, hs, hd⟩ := serialize_valid c hv
  exact ⟨_, hs, Nat.pos_of_ne_zero (encId_ne_zero t S r), encId_lt hwf, (getResolution_encId hwf).trans hr.symm, hd⟩

def ValidId (n : Nat) : Prop := n = 0 ∨ ∃ t S r, WF t S r ∧ n = encId t S r

/-- re-encoding, at resolution `a`, the origin and segment that `deserialize` reads off the top value `t` -/
theorem topOf_segment (t a : Nat) :
    topOf (t / 5) (((t : Int) + firstQuintant (t / 5)) % 5) a = if a = 0 then t / 5 else t := by
  unfold topOf
  split
  · rfl
  · rw [Int.add_emod_right, Int.emod_sub_emod, Int.add_sub_cancel]
    exact Nat.div_add_mod t 5

theorem topOf_decode (t r : Nat) :
    topOf (if r = 0 then t else t / 5) (if r = 0 then 0 else ((t : Int) + firstQuintant (t / 5)) % 5) r = t := by
  by_cases h0 : r = 0
  · rw [if_pos h0, topOf, if_pos h0]
  · rw [if_neg h0, if_neg h0, topOf_segment t r, if_neg h0]

theorem decodeCell_valid {t S r : Nat} (h : WF t S r) : (decodeCell t S r).Valid := by
  obtain ⟨hr, hS, ht⟩ := h
  unfold decodeCell
  constructor <;> simp only [Int.toNat_natCast]
  · split
    · rwa [if_pos ‹r = 0›] at ht
    · exact Nat.div_lt_of_lt_mul (by rwa [if_neg ‹¬r = 0›] at ht)
  · split
    · decide
    · exact ⟨Int.emod_nonneg _ (by decide), Int.emod_lt_of_pos _ (by decide)⟩
  · exact ⟨Int.natCast_nonneg r, Int.ofNat_le.2 hr⟩
  · exact ⟨Int.natCast_nonneg S, hS⟩

theorem serialize_decodeCell {t S r : Nat} (h : WF t S r) : serialize (decodeCell t S r) = .ok (encId t S r) :=
  (serialize_ok _ _ S r h.1 h.2.1).trans (by rw [topOf_decode t r])

theorem deserialize_world : deserialize 0 = .ok { origin := 0, segment := 0, S := 0, res := -1 } := by decide

end A5
