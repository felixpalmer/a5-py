/-
  Laws of the exception monad `PyM = Except Err`, in the two spellings the model uses (`x.bind f` and `do`/`>>=`).
-/
import A5.Model.Basic

namespace A5

theorem bind_ok {α β : Type} (a : α) (f : α → PyM β) : (Except.ok a : PyM α).bind f = f a := rfl

theorem ok_bind.{u} {α β : Type u} (a : α) (f : α → PyM β) : (Except.ok a >>= f) = f a := rfl

theorem bind_eq_ok {α β : Type} {x : PyM α} {f : α → PyM β} {b : β} (h : x.bind f = .ok b) :
    ∃ a, x = .ok a ∧ f a = .ok b := by
  cases x with
  | error e => cases h
  | ok a => exact ⟨a, rfl, h⟩

theorem guard_eq_ok {α : Type} {c : Prop} [Decidable c] {e : Err} {x : PyM α} {a : α}
    (h : (if c then .error e else x) = .ok a) : ¬c ∧ x = .ok a := by
  split at h
  · cases h
  · exact ⟨‹¬c›, h⟩

theorem mapM_ok {α β : Type} (f : α → PyM β) (g : α → β) (l : List α) (h : ∀ x ∈ l, f x = .ok (g x)) :
    l.mapM f = .ok (l.map g) := by
  induction l with
  | nil => rfl
  | cons a l ih =>
    rw [List.mapM_cons, h a List.mem_cons_self, ih fun x hx => h x (List.mem_cons_of_mem a hx)]
    rfl

theorem mapM_length {α β : Type} (f : α → PyM β) (l : List α) :
    ∀ l' : List β, l.mapM f = .ok l' → l'.length = l.length := by
  induction l with
  | nil =>
    intro l' h
    rw [List.mapM_nil] at h
    cases h
    rfl
  | cons a l ih =>
    intro l' h
    rw [List.mapM_cons] at h
    obtain ⟨b, _, h⟩ := bind_eq_ok h
    obtain ⟨bs, hl, h⟩ := bind_eq_ok h
    cases h
    rw [List.length_cons, List.length_cons, ih bs hl]

end A5
