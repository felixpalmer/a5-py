/-
  C02 / C18 in exact arithmetic: the centroid of the pentagon of EVERY cell (16 shapes × every lattice offset up to level 30), taken back
  to lattice coordinates with the implementation's own BASIS_INVERSE (exact values of the doubles), lies strictly inside the unit
  triangle of the cell's anchor — so `ij_to_s` of the exact centre returns the index.
-/
import A5.Proofs.DriftGeo
import A5.Proofs.HilbertG
import A5.Proofs.PlanarConst

namespace A5.Planar
open A5.Hilbert

/-- `face_to_ij`: BASIS_INVERSE · v -/
def lattice (v : ℚ × ℚ) : ℚ × ℚ := (binvQ.1 * v.1 + binvQ.2.1 * v.2, binvQ.2.2.1 * v.1 + binvQ.2.2.2 * v.2)

/-- BASIS_INVERSE · BASIS − I (not zero: both are rounded doubles) -/
def errM : ℚ × ℚ × ℚ × ℚ :=
  (binvQ.1 * basisQ.1 + binvQ.2.1 * basisQ.2.2.1 - 1, binvQ.1 * basisQ.2.1 + binvQ.2.1 * basisQ.2.2.2,
   binvQ.2.2.1 * basisQ.1 + binvQ.2.2.2 * basisQ.2.2.1, binvQ.2.2.1 * basisQ.2.1 + binvQ.2.2.2 * basisQ.2.2.2 - 1)

theorem errM_small : |errM.1| ≤ 1 / 2 ^ 50 ∧ |errM.2.1| ≤ 1 / 2 ^ 50 ∧ |errM.2.2.1| ≤ 1 / 2 ^ 50 ∧ |errM.2.2.2| ≤ 1 / 2 ^ 50 := by
  decide +kernel

/-- unit triangle with a margin μ on every side -/
def TriM (f : Flips) (μ u v : ℚ) : Prop :=
  match f with
  | (false, false) => μ ≤ u ∧ μ ≤ v ∧ u + v ≤ 1 - μ
  | (false, true)  => u ≤ -μ ∧ v ≤ 1 - μ ∧ μ ≤ u + v
  | (true,  false) => μ ≤ u ∧ -1 + μ ≤ v ∧ u + v ≤ -μ
  | (true,  true)  => u ≤ -μ ∧ v ≤ -μ ∧ -1 + μ ≤ u + v

instance (f : Flips) (μ u v : ℚ) : Decidable (TriM f μ u v) := by
  obtain ⟨fx, fy⟩ := f
  cases fx <;> cases fy <;> simp only [TriM] <;> infer_instance

theorem shape_margin : ∀ (f1 f2 : Bool) (k : Fin 4),
    TriM (f1, f2) (1 / 10) (lattice (cen (shapeOf baseQ slQ srQ (f1, f2) k.val))).1 (lattice (cen (shapeOf baseQ slQ srQ (f1, f2) k.val))).2 := by
  decide +kernel

theorem TriM_perturb {f : Flips} {μ u v e1 e2 : ℚ} (h : TriM f μ u v) (he : |e1| + |e2| < μ) : Tri f 1 (u + e1) (v + e2) := by
  obtain ⟨l1, u1⟩ := abs_lt.1 ((le_add_of_nonneg_right (abs_nonneg e2)).trans_lt he)
  obtain ⟨l2, u2⟩ := abs_lt.1 ((le_add_of_nonneg_left (abs_nonneg e1)).trans_lt he)
  obtain ⟨l3, u3⟩ := abs_lt.1 ((abs_add_le e1 e2).trans_lt he)
  clear he
  obtain ⟨fx, fy⟩ := f
  cases fx <;> cases fy
  all_goals
    obtain ⟨h1, h2, h3⟩ := h
    refine ⟨?_, ?_, ?_⟩ <;> linarith

theorem lattice_posOf (f : Flips) (k : Nat) (x y : ℚ) :
    (lattice (posOf baseQ basisQ slQ srQ f k x y)).1 = (lattice (cen (shapeOf baseQ slQ srQ f k))).1 + x + (errM.1 * x + errM.2.1 * y) ∧
    (lattice (posOf baseQ basisQ slQ srQ f k x y)).2 = (lattice (cen (shapeOf baseQ slQ srQ f k))).2 + y + (errM.2.2.1 * x + errM.2.2.2 * y) := by
  simp only [lattice, posOf, errM]
  constructor <;> ring

theorem err_bound {e₁ e₂ x y ε B : ℚ} (h₁ : |e₁| ≤ ε) (h₂ : |e₂| ≤ ε) (hx : |x| ≤ B) (hy : |y| ≤ B) :
    |e₁ * x + e₂ * y| ≤ 2 * (ε * B) := by
  have hε := (abs_nonneg e₁).trans h₁
  calc |e₁ * x + e₂ * y| ≤ |e₁| * |x| + |e₂| * |y| := by
        rw [← abs_mul, ← abs_mul]
        exact abs_add_le _ _
    _ ≤ ε * B + ε * B := add_le_add (mul_le_mul h₁ hx (abs_nonneg x) hε) (mul_le_mul h₂ hy (abs_nonneg y) hε)
    _ = 2 * (ε * B) := by ring

/-- the rounding of BASIS_INVERSE moves the centre by at most 2 · 2 · 2^31 / 2^50 < 1/10 -/
theorem centre_in_triangle (f : Flips) (k : Nat) (hk : k < 4) (i j : Int) (hi : |(i : ℚ)| ≤ 2 ^ 31) (hj : |(j : ℚ)| ≤ 2 ^ 31) :
    Tri f 1 ((lattice (posOf baseQ basisQ slQ srQ f k i j)).1 - i) ((lattice (posOf baseQ basisQ slQ srQ f k i j)).2 - j) := by
  obtain ⟨l1, l2⟩ := lattice_posOf f k i j
  obtain ⟨e1, e2, e3, e4⟩ := errM_small
  have b1 := err_bound e1 e2 hi hj
  have b2 := err_bound e3 e4 hi hj
  rw [l1, l2, add_right_comm, add_sub_cancel_right, add_right_comm, add_sub_cancel_right]
  refine TriM_perturb (shape_margin f.1 f.2 ⟨k, hk⟩) ((add_le_add b1 b2).trans_lt ?_)
  norm_num

end A5.Planar
