/-
  The generated constants, the id layout (`mpos`, `npos`, `encId`, `WF`) and `get_resolution` on every well-formed id,
  for a *symbolic* position `S` (no enumeration of S) and every resolution 0..29; for an arbitrary `Nat`, the range of
  `get_resolution` and of the origin `deserialize` returns.
-/
import A5.Model.Compact
import A5.Proofs.Bits
import A5.Proofs.PyM

attribute [local instance 2000] instPowNat  -- see Bits.lean

namespace A5
open A5.Bits

/-! ### the generated constants are the ones the proofs are about (re-decided on every run) -/
@[simp] theorem FHR_eq : FHR = 2 := by decide
@[simp] theorem MAXR_eq : MAXR = 30 := by decide
@[simp] theorem HSB_eq : HSB = 58 := by decide
@[simp] theorem REMOVAL_MASK_eq : REMOVAL_MASK = 2 ^ 58 - 1 := by decide
@[simp] theorem WORLD_CELL_eq : WORLD_CELL = 0 := by decide
@[simp] theorem NUM_ORIGINS_eq : NUM_ORIGINS = 12 := by decide
@[simp] theorem CIFHR_eq : CIFHR = 2 := by decide
@[simp] theorem CFHR_eq : CFHR = 2 := by decide
theorem ORIGIN_IDS_eq : Tables.ORIGIN_IDS = List.range 12 := by decide

theorem firstQuintant_range : ∀ o, o < 12 → 0 ≤ firstQuintant o ∧ firstQuintant o < 5 := by decide

theorem originAt_ok (i : Nat) (h : i < 12) : originAt i = .ok i := by
  simp [originAt, h]

theorem originAt_lt {i o : Nat} (h : originAt i = .ok o) : o < 12 := by
  unfold originAt at h
  split at h
  · cases h
    exact NUM_ORIGINS_eq ▸ ‹i < NUM_ORIGINS›
  · cases h

theorem shr_ok (a : Nat) (n : Int) (h : 0 ≤ n) : shr a n = .ok (a >>> n.toNat) := by
  rw [shr, if_neg (Int.not_lt.2 h)]

theorem shr_eq (a : Nat) {n : Int} (k : Nat) (h : n = k) : shr a n = .ok (a / 2 ^ k) := by
  subst h; rw [shr_ok a k (Int.natCast_nonneg k), Nat.shiftRight_eq_div_pow, Int.toNat_natCast]

theorem shl_ok (a : Nat) (n : Int) (h : 0 ≤ n) : shl a n = .ok (a <<< n.toNat) := by
  rw [shl, if_neg (Int.not_lt.2 h)]

theorem shl_eq (a : Nat) {n : Int} (k : Nat) (h : n = k) : shl a n = .ok (a * 2 ^ k) := by
  subst h; rw [shl_ok a k (Int.natCast_nonneg k), Nat.shiftLeft_eq, Int.toNat_natCast]

theorem shl_58 (a : Nat) : shl a 58 = .ok (a * 2 ^ 58) := shl_eq a 58 rfl

theorem shr_58 (a : Nat) : shr a 58 = .ok (a / 2 ^ 58) := shr_eq a 58 rfl

/-- marker bit position of a resolution-`r` id: `HILBERT_START_BIT − R` with `serialize`'s `R` (`r + 1` below resolution 2,
    `2 (r − 1) + 1` from 2 on); meaningful up to resolution 29 -/
def mpos (r : Nat) : Nat := if r = 0 then 57 else if r = 1 then 56 else 59 - 2 * r

/-- number of Hilbert positions at resolution `r` (1 below resolution 2) -/
def npos (r : Nat) : Nat := if r < 2 then 1 else 4 ^ (r - 1)

def encId (t S r : Nat) : Nat := t * 2 ^ 58 + S * 2 ^ (mpos r + 1) + 2 ^ mpos r

/-- well-formed fields: resolution 0..29, face < 12 at resolution 0, face*5+segment < 60 above, position in range -/
def WF (t S r : Nat) : Prop := r ≤ 29 ∧ S < npos r ∧ t < (if r = 0 then 12 else 60)

instance (t S r : Nat) : Decidable (WF t S r) := by unfold WF; infer_instance

theorem mpos_low : ∀ r ≤ 2, mpos r + r = 57 := by decide

theorem mpos_high (r : Nat) (h2 : 2 ≤ r) (h : r ≤ 29) : mpos r + 2 * r = 59 := by
  unfold mpos
  rw [if_neg (Nat.ne_zero_of_lt h2), if_neg (Nat.ne_of_gt h2)]
  omega

theorem mpos_cases (r : Nat) (h : r ≤ 29) : r ≤ 2 ∧ mpos r + r = 57 ∨ 2 < r ∧ mpos r + 2 * r = 59 := by
  rcases Nat.lt_or_ge 2 r with h2 | h2
  · exact Or.inr ⟨h2, mpos_high r (Nat.le_of_lt h2) h⟩
  · exact Or.inl ⟨h2, mpos_low r h2⟩

theorem mpos_le (r : Nat) (h : r ≤ 29) : mpos r ≤ 57 := by
  rcases mpos_cases r h with h | h <;> omega

theorem mpos_pos (r : Nat) (h : r ≤ 29) : 1 ≤ mpos r := by
  rcases mpos_cases r h with h | h <;> omega

theorem mpos_anti {a b : Nat} (hab : a < b) (hb : b ≤ 29) : mpos b < mpos a := by
  have ha := mpos_cases a (Nat.le_trans (Nat.le_of_lt hab) hb)
  have hb' := mpos_cases b hb
  omega

theorem npos_pow (r : Nat) : npos r = 4 ^ (r - 1) := by
  unfold npos
  split
  · rw [Nat.sub_eq_zero_of_le (Nat.le_of_lt_succ ‹r < 2›)]
  · rfl

theorem npos_pos (r : Nat) : 0 < npos r := by
  rw [npos_pow]
  exact Nat.pow_pos (by omega)

theorem npos_small (r S : Nat) (h : r < 2) (hS : S < npos r) : S = 0 := by
  rw [npos, if_pos h] at hS
  exact Nat.lt_one_iff.1 hS

theorem npos_eq (r : Nat) (h2 : 2 ≤ r) (h : r ≤ 29) : npos r = 2 ^ (57 - mpos r) := by
  have := mpos_high r h2 h
  rw [npos_pow, show (4:Nat) = 2 ^ 2 by rfl, ← Nat.pow_mul]
  congr 1
  exact Nat.eq_sub_of_add_eq (by omega)

theorem npos_le (r : Nat) (h : r ≤ 29) : npos r ≤ 2 ^ (57 - mpos r) := by
  by_cases h2 : 2 ≤ r
  · exact Nat.le_of_eq (npos_eq r h2 h)
  · rw [npos, if_pos (Nat.lt_of_not_le h2)]
    exact Nat.one_le_two_pow

theorem WF.top_lt {t S r : Nat} (h : WF t S r) : t < 60 := by
  have := h.2.2
  split at this <;> omega

theorem low_lt_of_WF {t S r : Nat} (h : WF t S r) : S * 2 ^ (mpos r + 1) + 2 ^ mpos r < 2 ^ 58 :=
  low_lt_pow (mpos_le r h.1) (Nat.lt_of_lt_of_le h.2.1 (npos_le r h.1))

theorem encId_lt {t S r : Nat} (h : WF t S r) : encId t S r < 2 ^ 64 := by
  have hl := low_lt_of_WF h
  have ht := h.top_lt
  unfold encId; omega

theorem encId_ne_zero (t S r : Nat) : encId t S r ≠ 0 := by
  unfold encId; have := Nat.two_pow_pos (mpos r); omega

theorem encId_top {t S r : Nat} (h : WF t S r) : encId t S r >>> 58 = t := by
  rw [Nat.shiftRight_eq_div_pow, encId, Nat.add_assoc, Nat.mul_comm, Nat.mul_add_div (Nat.two_pow_pos 58),
    Nat.div_eq_of_lt (low_lt_of_WF h), Nat.add_zero]

theorem encId_low {t S r : Nat} (h : WF t S r) :
    encId t S r % 2 ^ 58 = S * 2 ^ (mpos r + 1) + 2 ^ mpos r := by
  rw [encId, Nat.add_assoc, Nat.mul_comm, Nat.mul_add_mod, Nat.mod_eq_of_lt (low_lt_of_WF h)]

/-- the bit the loop tests at `resolution = r + 1`, plus its shift on stepping down, is the bit it tests at `r` -/
theorem mpos_step (r : Nat) (h : r + 1 ≤ 29) :
    mpos (r + 1) + (if ((r + 1 : Nat) : Int) - 1 < 2 then 1 else 2) = mpos r := by
  have h0 := mpos_cases r (by omega)
  have h1 := mpos_cases (r + 1) h
  split <;> omega

/-- The marker scan at `resolution = k` looks at bit `mpos k`: 0 below the marker of a resolution-`r` id, 1 at it.
    Fuel `k + 2` makes the induction over `k` follow the recursion. -/
theorem getResLoop_marker (q r k : Nat) (hrk : r ≤ k) (hk : k ≤ 29) :
    getResLoop (k + 2) k ((2 ^ mpos r * (2 * q + 1)) >>> mpos k) = r := by
  induction k, hrk using Nat.le_induction with
  | base => rw [getResLoop, bit_one_at, if_neg fun h => Nat.one_ne_zero h.2]
  | succ k hrk ih =>
    simp only [getResLoop]
    rw [if_pos ⟨by omega, bit_zero_of_lt q (mpos_anti (Nat.lt_succ_of_le hrk) hk)⟩, FHR_eq, ← Nat.shiftRight_add,
      mpos_step k hk, Int.natCast_succ, Int.add_sub_cancel]
    exact ih (Nat.le_of_succ_le hk)

/-- `get_resolution` enters the scan at resolution 29 with `index >> 1`, and `mpos 29 = 1` -/
theorem getResolution_of_marker (q r : Nat) (h : r ≤ 29) : getResolution (2 ^ mpos r * (2 * q + 1)) = (r : Int) :=
  getResLoop_marker q r 29 h (Nat.le_refl 29)

theorem getResolution_encId {t S r : Nat} (h : WF t S r) : getResolution (encId t S r) = (r : Int) := by
  rw [encId, id_eq_pow_mul_odd t S (mpos r) (mpos_le r h.1)]
  exact getResolution_of_marker _ r h.1

theorem getResolution_zero : getResolution 0 = -1 := by decide

theorem getResLoop_fuel (res : Int) (sh : Nat) :
    ∀ f1 f2 : Nat, (res + 2 ≤ f1) → (res + 2 ≤ f2) → getResLoop f1 res sh = getResLoop f2 res sh := by
  intro f1
  induction f1 generalizing res sh with
  | zero =>
    intro f2 h1 h2
    cases f2 with
    | zero => rfl
    | succ f2 => simp only [getResLoop]; rw [if_neg (by omega)]
  | succ f1 ih =>
    intro f2 h1 h2
    cases f2 with
    | zero => simp only [getResLoop]; rw [if_neg (by omega)]
    | succ f2 =>
      simp only [getResLoop]
      split
      · exact ih _ _ f2 (by omega) (by omega)
      · rfl

theorem getResLoop_range (fuel : Nat) (res : Int) (sh : Nat) (h : -1 ≤ res) :
    -1 ≤ getResLoop fuel res sh ∧ getResLoop fuel res sh ≤ res := by
  induction fuel generalizing res sh with
  | zero => exact ⟨h, Int.le_refl res⟩
  | succ f ih =>
    simp only [getResLoop]
    split
    · have := ih (res - 1) (sh >>> (if res - 1 < FHR then 1 else 2)) (by omega)
      omega
    · omega

theorem getResolution_range (n : Nat) : -1 ≤ getResolution n ∧ getResolution n ≤ 29 :=
  getResLoop_range (MAXR.toNat + 1) (MAXR - 1) (n >>> 1) (by decide)

theorem deserialize_origin_lt {index : Nat} {c : Cell} (h : deserialize index = .ok c) : c.origin < 12 := by
  unfold deserialize at h
  dsimp only at h
  split at h
  · obtain ⟨o, ho, h⟩ := bind_eq_ok h
    cases h
    exact originAt_lt ho
  · obtain ⟨⟨o, sg⟩, hos, h⟩ := bind_eq_ok h
    have ho : o < 12 := by
      split at hos
      all_goals
        obtain ⟨o', ho', h'⟩ := bind_eq_ok hos
        cases h'
        exact originAt_lt ho'
    split at h
    · cases h
      exact ho
    · obtain ⟨s, -, h⟩ := bind_eq_ok h
      cases h
      exact ho

end A5
