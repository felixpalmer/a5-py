/-
  Coverage: "a is the ancestor-or-self of x" at code level.  On nodes it says that x's index divided by the fan-out
  is a's index; the order facts about valid ids follow from that by arithmetic on the quotient.
-/
import A5.Proofs.Node

namespace A5

def Covers (a x : Nat) : Prop := cellToParent x (some (getResolution a)) = .ok a

def CoveredBy (Z : List Nat) (x : Nat) : Prop := ∃ z, z ∈ Z ∧ Covers z x

theorem coveredBy_cons (c : Nat) (Z : List Nat) (x : Nat) : CoveredBy (c :: Z) x ↔ Covers c x ∨ CoveredBy Z x := by
  simp only [CoveredBy, List.mem_cons, or_and_right, exists_or, exists_eq_left]

theorem coveredBy_append (A B : List Nat) (x : Nat) : CoveredBy (A ++ B) x ↔ CoveredBy A x ∨ CoveredBy B x := by
  simp only [CoveredBy, List.mem_append, or_and_right, exists_or]

theorem covers_node {a i b j : Nat} (ha : IsNode a i) (hb : IsNode b j) :
    Covers (node a i) (node b j) ↔ a ≤ b ∧ j / fan a b = i := by
  unfold Covers
  rw [getResolution_node ha]
  by_cases hab : a ≤ b
  · rw [cellToParent_node hb hab (Int.sub_add_cancel _ 1)]
    constructor
    · intro e
      exact ⟨hab, (node_inj (hb.anc hab) ha (Except.ok.inj e)).2⟩
    · rintro ⟨_, rfl⟩
      rfl
  · rw [cellToParent_node_finer hb (Int.le_sub_one_of_lt (Int.ofNat_lt.2 (Nat.lt_of_not_le hab)))]
    constructor
    · intro e
      cases e
    · intro h
      exact absurd h.1 hab

theorem covers_self {x : Nat} (hv : ValidId x) : Covers x x := by
  obtain ⟨ℓ, i, h, rfl⟩ := validId_iff_node.1 hv
  rw [covers_node h h, fan_self, Nat.div_one]
  exact ⟨Nat.le_refl _, rfl⟩

theorem covers_res {a b : Nat} (ha : ValidId a) (hb : ValidId b) (h : Covers a b) : getResolution a ≤ getResolution b := by
  obtain ⟨ℓa, i, na, rfl⟩ := validId_iff_node.1 ha
  obtain ⟨ℓb, j, nb, rfl⟩ := validId_iff_node.1 hb
  have := ((covers_node na nb).1 h).1
  rw [getResolution_node na, getResolution_node nb]
  exact Int.sub_le_sub_right (Int.ofNat_le.2 this) 1

theorem covers_eq_of_res {a b : Nat} (ha : ValidId a) (hb : ValidId b) (h : Covers a b)
    (hr : getResolution a = getResolution b) : a = b := by
  obtain ⟨ℓa, i, na, rfl⟩ := validId_iff_node.1 ha
  obtain ⟨ℓb, j, nb, rfl⟩ := validId_iff_node.1 hb
  rw [getResolution_node na, getResolution_node nb] at hr
  obtain rfl : ℓa = ℓb := Int.ofNat_inj.1 ((Int.sub_left_inj 1).1 hr)
  have := ((covers_node na nb).1 h).2
  rw [fan_self, Nat.div_one] at this
  rw [this]

theorem covers_antisymm {a b : Nat} (ha : ValidId a) (hb : ValidId b) (h1 : Covers a b) (h2 : Covers b a) : a = b :=
  covers_eq_of_res ha hb h1 (Int.le_antisymm (covers_res ha hb h1) (covers_res hb ha h2))

/-- the level-a ancestor of `c` is the level-a ancestor of its level-b ancestor -/
theorem covers_mid {a b c : Nat} (ha : ValidId a) (hb : ValidId b) (hc : ValidId c) (hbc : Covers b c)
    (hr : getResolution a ≤ getResolution b) : Covers a c ↔ Covers a b := by
  obtain ⟨ℓa, i, na, rfl⟩ := validId_iff_node.1 ha
  obtain ⟨ℓb, j, nb, rfl⟩ := validId_iff_node.1 hb
  obtain ⟨ℓc, k, nc, rfl⟩ := validId_iff_node.1 hc
  rw [getResolution_node na, getResolution_node nb] at hr
  have hab : ℓa ≤ ℓb := Int.ofNat_le.1 (Int.sub_le_sub_right_iff.1 hr)
  obtain ⟨hℓ, rfl⟩ := (covers_node nb nc).1 hbc
  rw [covers_node na nc, covers_node na nb, div_fan_div_fan hab hℓ nc.1]
  exact ⟨fun h => ⟨hab, h.2⟩, fun h => ⟨Nat.le_trans hab hℓ, h.2⟩⟩

theorem covers_trans {a b c : Nat} (ha : ValidId a) (hb : ValidId b) (hc : ValidId c)
    (h1 : Covers a b) (h2 : Covers b c) : Covers a c :=
  (covers_mid ha hb hc h2 (covers_res ha hb h1)).2 h1

theorem covers_chain {a b x : Nat} (ha : ValidId a) (hb : ValidId b) (hx : ValidId x)
    (h1 : Covers a x) (h2 : Covers b x) (hr : getResolution a ≤ getResolution b) : Covers a b :=
  (covers_mid ha hb hx h2 hr).1 h1

end A5
