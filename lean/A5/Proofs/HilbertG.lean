/-
  C18, geometric half in exact arithmetic (ℚ ⊇ every IEEE double).  One step of the subdivision is the same for all four flip states
  once the point is written in the coordinates `loc` of its triangle; the lattice cell of a shifted digit string is `anchorOf`;
  the cell lies inside the triangle the string was started in, and decoding any point strictly inside the cell returns the string —
  for every length.
-/
import A5.Proofs.HilbertT
import A5.Proofs.ScalarRat
import Mathlib.Tactic.Linarith
import Mathlib.Tactic.Ring
import Mathlib.Algebra.Order.Field.Basic

namespace A5.Hilbert
open A5.Planar (sc_add sc_sub sc_mul sc_div sc_neg sc_ofInt sc_lt)

/-- `kj_to_ij(quaternary_to_kj(d, f))` as rationals -/
def childQ (d : Nat) (f : Flips) : ℚ × ℚ := (((kjToIj (kjOf d f)).1 : Int), ((kjToIj (kjOf d f)).2 : Int))

/-- open unit-lattice triangle of side `s` belonging to flip state `f`, anchored at the origin -/
def Tri (f : Flips) (s u v : ℚ) : Prop :=
  match f with
  | (false, false) => 0 < u ∧ 0 < v ∧ u + v < s
  | (false, true)  => u < 0 ∧ v < s ∧ 0 < u + v
  | (true,  false) => 0 < u ∧ -s < v ∧ u + v < 0
  | (true,  true)  => u < 0 ∧ v < 0 ∧ -s < u + v

/-- the closed triangle: `Tri` with its boundary -/
def TriC (f : Flips) (s u v : ℚ) : Prop :=
  match f with
  | (false, false) => 0 ≤ u ∧ 0 ≤ v ∧ u + v ≤ s
  | (false, true)  => u ≤ 0 ∧ v ≤ s ∧ 0 ≤ u + v
  | (true,  false) => 0 ≤ u ∧ -s ≤ v ∧ u + v ≤ 0
  | (true,  true)  => u ≤ 0 ∧ v ≤ 0 ∧ -s ≤ u + v

/-- the linear map that takes the triangle of flip state `f` to the standard one `0 < p, 0 < q, p + q < s` -/
def loc (f : Flips) (w : ℚ × ℚ) : ℚ × ℚ :=
  match f with
  | (false, false) => (w.1, w.2)
  | (false, true)  => (-w.1, w.1 + w.2)
  | (true,  false) => (w.1, -(w.1 + w.2))
  | (true,  true)  => (-w.1, -w.2)

theorem Tri_iff (f : Flips) (s u v : ℚ) :
    Tri f s u v ↔ 0 < (loc f (u, v)).1 ∧ 0 < (loc f (u, v)).2 ∧ (loc f (u, v)).1 + (loc f (u, v)).2 < s := by
  obtain ⟨fx, fy⟩ := f
  cases fx <;> cases fy <;> simp only [Tri, loc]
  all_goals
    constructor <;> rintro ⟨h1, h2, h3⟩
    all_goals refine ⟨?_, ?_, ?_⟩ <;> linarith

theorem TriC_iff (f : Flips) (s u v : ℚ) :
    TriC f s u v ↔ 0 ≤ (loc f (u, v)).1 ∧ 0 ≤ (loc f (u, v)).2 ∧ (loc f (u, v)).1 + (loc f (u, v)).2 ≤ s := by
  obtain ⟨fx, fy⟩ := f
  cases fx <;> cases fy <;> simp only [TriC, loc]
  all_goals
    constructor <;> rintro ⟨h1, h2, h3⟩
    all_goals refine ⟨?_, ?_, ?_⟩ <;> linarith

theorem Tri_sub_TriC (f : Flips) (s u v : ℚ) (h : Tri f s u v) : TriC f s u v := by
  rw [Tri_iff] at h
  rw [TriC_iff]
  exact ⟨h.1.le, h.2.1.le, h.2.2.le⟩

theorem loc_fmul (f g : Flips) (w : ℚ × ℚ) : loc (fmul f g) w = loc g (loc f w) := by
  obtain ⟨fx, fy⟩ := f
  obtain ⟨gx, gy⟩ := g
  cases fx <;> cases fy <;> cases gx <;> cases gy <;> simp [loc, fmul, add_comm]

theorem loc_lin (f : Flips) (t : ℚ) (a b : ℚ × ℚ) :
    loc f (a.1 - b.1 * t, a.2 - b.2 * t) = ((loc f a).1 - (loc f b).1 * t, (loc f a).2 - (loc f b).2 * t) := by
  obtain ⟨fx, fy⟩ := f
  cases fx <;> cases fy <;> simp only [loc] <;> ext <;> simp only <;> ring

/-- the offset of child `d`, in standard coordinates and in units of the child's side -/
def child0 : Nat → ℚ × ℚ
  | 0 => (0, 0)
  | 1 => (1, 0)
  | 2 => (0, 1)
  | _ => (1, 1)

/-- `quaternary_to_kj` with flips is the flip-free one seen through `loc` -/
theorem loc_childQ (f : Flips) (d : Nat) : loc f (childQ d f) = child0 d := by
  obtain ⟨fx, fy⟩ := f
  cases fx <;> cases fy <;> rcases d with _ | _ | _ | d <;> simp [childQ, kjOf, kjToIj, child0, loc]
  all_goals norm_num

/-- `ij_to_quaternary` in standard coordinates, comparing against `t` instead of 1 -/
def digit0 (t : ℚ) (w : ℚ × ℚ) : Nat := if w.1 + w.2 < t then 0 else if t < w.1 then 3 else if t < w.2 then 2 else 1

/-- What this file rests on: in the coordinates `(p, q) = loc f (u, v)` the digit test is the same for all four flip states.  The code
    tests `±(u + v)`, `±u`, `±v`, signs and order depending on the flips; in every state these are `p + q`, `p`, `q` in the order of
    `digit0`.  Dividing by the scale `t` of the level and comparing with 1 is comparing with `t`. -/
theorem quat_loc (f : Flips) (t u v : ℚ) (ht : 0 < t) : ijToQuaternary (u / t) (v / t) f = digit0 t (loc f (u, v)) := by
  -- stated on ℚ once: `simp only` would unify the instances of the general lemmas anew at every attempt
  have lt_one (a : ℚ) : a / t < 1 ↔ a < t := div_lt_one ht
  have one_lt (a : ℚ) : 1 < a / t ↔ t < a := one_lt_div ht
  obtain ⟨fx, fy⟩ := f
  cases fx <;> cases fy <;>
    simp only [ijToQuaternary, sc_lt, sc_neg, sc_add, sc_ofInt, Int.cast_one, decide_eq_true_eq, loc, digit0, Bool.false_eq_true,
      if_false, if_true, bne_self_eq_false, Bool.true_bne, Bool.false_bne, Bool.not_false, ← neg_div, ← add_div, lt_one, one_lt]
  -- the second and third tests agree as they stand; left is what the code tests first against `p + q`
  · rfl                                                                   -- (NO, NO):   u + v
  · exact if_congr (by rw [neg_add_cancel_left]) rfl rfl                  -- (NO, YES):  v = -u + (u + v)
  · exact if_congr (by rw [neg_add, add_neg_cancel_left]) rfl rfl         -- (YES, NO):  -v = u + -(u + v)
  · exact if_congr (by rw [neg_add]) rfl rfl                              -- (YES, YES): -(u + v) = -u + -v

theorem qflips_zero : qflips 0 = (false, false) := rfl
theorem qflips_one : qflips 1 = (false, true) := rfl
theorem qflips_two : qflips 2 = (false, false) := rfl
theorem qflips_three : qflips 3 = (true, false) := rfl

theorem loc_child (f : Flips) (d : Nat) (s u v : ℚ) :
    loc f (u - (childQ d f).1 * s, v - (childQ d f).2 * s) = ((loc f (u, v)).1 - (child0 d).1 * s, (loc f (u, v)).2 - (child0 d).2 * s) := by
  rw [loc_lin f s (u, v), loc_childQ]

theorem child_inside (f : Flips) (d : Nat) (hd : d < 4) (s u v : ℚ)
    (h : Tri (fmul f (qflips d)) s (u - (childQ d f).1 * s) (v - (childQ d f).2 * s)) : Tri f (2 * s) u v := by
  rw [Tri_iff, loc_fmul, loc_child] at h
  rw [Tri_iff]
  generalize loc f (u, v) = w at h ⊢
  obtain rfl | rfl | rfl | rfl : d = 0 ∨ d = 1 ∨ d = 2 ∨ d = 3 := by omega
  all_goals
    clear hd                                                              -- a fact on ℕ that every `linarith` would cast and carry
    simp only [qflips_zero, qflips_one, qflips_two, qflips_three, child0, loc, zero_mul, one_mul, sub_zero] at h
    obtain ⟨h1, h2, h3⟩ := h
    refine ⟨?_, ?_, ?_⟩ <;> linarith

theorem child_region (f : Flips) (d : Nat) (hd : d < 4) (s u v : ℚ) (hs : 0 < s)
    (h : Tri (fmul f (qflips d)) s (u - (childQ d f).1 * s) (v - (childQ d f).2 * s)) : ijToQuaternary (u / s) (v / s) f = d := by
  rw [Tri_iff, loc_fmul, loc_child] at h
  rw [quat_loc f s u v hs]
  generalize loc f (u, v) = w at h ⊢
  unfold digit0
  obtain rfl | rfl | rfl | rfl : d = 0 ∨ d = 1 ∨ d = 2 ∨ d = 3 := by omega
  all_goals
    clear hd                                                              -- as in `child_inside`
    simp only [qflips_zero, qflips_one, qflips_two, qflips_three, child0, loc, zero_mul, one_mul, sub_zero] at h
    obtain ⟨h1, h2, h3⟩ := h
  · rw [if_pos h3]
  · rw [if_neg (by linarith), if_neg (by linarith), if_neg (by linarith)]
  · rw [if_neg (by linarith), if_neg (by linarith), if_pos (by linarith)]
  · rw [if_neg (by linarith), if_pos (by linarith)]

/-- `k` is `digits[0]` of `_s_to_anchor`: the last shifted digit (0 if there is none); `get_pentagon_vertices` reads it only to decide,
    together with the flips, whether the pentagon is reflected (`Planar.mirrored`).  `base` is in (k, j) units: `kjToIj` comes at the
    end, over base and digits together.  The model starts at base (0, 0); another base is what the digits before a suffix leave behind
    (`fwd_anchor`, `anchorOf_shift`). -/
def anchorOf (base : Int × Int) (f : Flips) (ds : List Nat) : Anchor :=
  let r := accumulate ds f base
  let ij := kjToIj r.1
  { k := ds.getLastD 0, i := ij.1, j := ij.2, flips := r.2 }

theorem sToAnchorCore_eq (s n : Nat) (inv flip : Bool) :
    sToAnchorCore s n inv flip =
      anchorOf (0, 0) (false, false) (shiftAll (if flip then PATTERN_FLIPPED else PATTERN) inv (digitsMSB s n)) := rfl

theorem anchorOf_k_lt (base : Int × Int) (f : Flips) (ds : List Nat) (h : ∀ d ∈ ds, d < 4) : (anchorOf base f ds).k < 4 :=
  (List.forall_mem_cons (p := (· < 4))).2 ⟨Nat.succ_pos 3, h⟩ _ List.getLastD_mem_cons

theorem accumulate_off : ∀ (ds : List Nat) (f : Flips) (off : Int × Int),
    accumulate ds f off = ((off.1 * 2 ^ ds.length + (accumulate ds f (0, 0)).1.1, off.2 * 2 ^ ds.length + (accumulate ds f (0, 0)).1.2),
      (accumulate ds f (0, 0)).2)
  | [], f, off => by simp [accumulate]
  | d :: ds, f, off => by
    simp only [accumulate, List.length_cons]
    rw [accumulate_off ds _ (_, _), accumulate_off ds _ (0 * 2 + _, _)]
    ext <;> simp only <;> ring

theorem anchorOf_nil (f : Flips) : anchorOf (0, 0) f [] = ⟨0, 0, 0, f⟩ := rfl

theorem anchorOf_cons (f : Flips) (d : Nat) (ds : List Nat) :
    ((anchorOf (0, 0) f (d :: ds)).i : ℚ) = (childQ d f).1 * 2 ^ ds.length + (anchorOf (0, 0) (fmul f (qflips d)) ds).i ∧
    ((anchorOf (0, 0) f (d :: ds)).j : ℚ) = (childQ d f).2 * 2 ^ ds.length + (anchorOf (0, 0) (fmul f (qflips d)) ds).j ∧
    (anchorOf (0, 0) f (d :: ds)).flips = (anchorOf (0, 0) (fmul f (qflips d)) ds).flips := by
  simp only [anchorOf, accumulate, kjToIj, childQ]
  rw [accumulate_off]
  push_cast
  refine ⟨by ring, by ring, rfl⟩

theorem decodeDigits_succ {n : Nat} {x y px py : ℚ} {f : Flips} {d : Nat}
    (hd : ijToQuaternary ((x - px) / 2 ^ n) ((y - py) / 2 ^ n) f = d) :
    decodeDigits (n + 1) x y px py f =
      d :: decodeDigits n x y (px + (childQ d f).1 * 2 ^ n) (py + (childQ d f).2 * 2 ^ n) (fmul f (qflips d)) := by
  subst hd
  simp only [decodeDigits, childQ, sc_sub, sc_div, sc_ofInt, sc_add, sc_mul, Int.cast_pow, Int.cast_ofNat]

theorem cell_inside : ∀ (ds : List Nat) (_ : ∀ d ∈ ds, d < 4) (f : Flips) (u v : ℚ),
    Tri (anchorOf (0, 0) f ds).flips 1 (u - (anchorOf (0, 0) f ds).i) (v - (anchorOf (0, 0) f ds).j) → Tri f (2 ^ ds.length) u v
  | [], _, f, u, v, h => by simpa [anchorOf_nil] using h
  | d :: ds, hd, f, u, v, h => by
    obtain ⟨hd, hds⟩ := List.forall_mem_cons.1 hd
    obtain ⟨ei, ej, ef⟩ := anchorOf_cons f d ds
    rw [ei, ej, ef, sub_add_eq_sub_sub, sub_add_eq_sub_sub v] at h
    rw [List.length_cons, pow_succ']
    exact child_inside f d hd _ u v (cell_inside ds hds _ _ _ h)

theorem decode_open : ∀ (ds : List Nat) (_ : ∀ d ∈ ds, d < 4) (f : Flips) (px py x y : ℚ),
    Tri (anchorOf (0, 0) f ds).flips 1 (x - px - (anchorOf (0, 0) f ds).i) (y - py - (anchorOf (0, 0) f ds).j) →
    decodeDigits ds.length x y px py f = ds
  | [], _, f, px, py, x, y, _ => rfl
  | d :: ds, hd, f, px, py, x, y, h => by
    obtain ⟨hd, hds⟩ := List.forall_mem_cons.1 hd
    obtain ⟨ei, ej, ef⟩ := anchorOf_cons f d ds
    rw [ei, ej, ef, sub_add_eq_sub_sub, sub_add_eq_sub_sub (y - py)] at h
    have hq := child_region f d hd _ (x - px) (y - py) (by positivity) (cell_inside ds hds _ _ _ h)
    rw [List.length_cons, decodeDigits_succ hq, decode_open ds hds]
    rw [← sub_sub, ← sub_sub]
    exact h

end A5.Hilbert
