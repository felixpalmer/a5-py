/-
  `cell_to_children` on nodes, and the cell counts.  The children of the cell with index i at level a, taken at level b,
  are the nodes of level b with indices i * fan a b ..< (i + 1) * fan a b: in this order from level 2 on; below a face
  or the world cell the five segments of each face come rotated by the face's first quintant.
-/
import A5.Proofs.Cover
import Mathlib.Data.List.Nodup
import Mathlib.Data.List.Perm.Basic

attribute [local instance 2000] instPowNat  -- see Bits.lean

namespace A5
open A5.Bits

theorem getNumCells_nat (r : Nat) : getNumCells (r : Int) = if r = 0 then 12 else 60 * 4 ^ (r - 1) := by
  unfold getNumCells
  rw [if_neg (Int.not_lt.2 (Int.natCast_nonneg r))]
  by_cases h : r = 0
  · rw [if_pos (Int.natCast_eq_zero.2 h), if_pos h]
  · rw [if_neg (Int.natCast_ne_zero.2 h), if_neg h]
    congr 2
    exact Int.toNat_sub r 1

theorem getNumChildren_self (r : Int) : getNumChildren r r = 1 := by
  unfold getNumChildren
  rw [if_neg (Int.lt_irrefl r), if_pos rfl]

theorem getNumChildren_coarser (r b : Int) (h : b < r) : getNumChildren r b = 0 := by
  unfold getNumChildren
  rw [if_pos h]

theorem getNumChildren_world (b : Nat) : getNumChildren (-1) (b : Int) = getNumCells (b : Int) := by
  unfold getNumChildren
  rw [if_neg (by omega), if_neg (by omega), CIFHR_eq, if_neg (by omega), show getNumCells (-1) = 0 from rfl, if_pos rfl,
    Nat.div_one]

theorem getNumCells_mul {a b : Nat} (hab : a ≤ b) : getNumCells b = getNumCells a * getNumChildren a b := by
  rcases Nat.eq_or_lt_of_le hab with rfl | hlt
  · rw [getNumChildren_self, Nat.mul_one]
  · have hb : b ≠ 0 := Nat.ne_zero_of_lt hlt
    unfold getNumChildren
    rw [if_neg (Int.not_lt.2 (Int.ofNat_le.2 hab)), if_neg (Int.ne_of_gt (Int.ofNat_lt.2 hlt)), CIFHR_eq]
    by_cases h2 : 2 ≤ a
    · rw [if_pos (by omega), getNumCells_nat, getNumCells_nat, if_neg hb, if_neg (Nat.ne_zero_of_lt h2), Nat.mul_assoc,
        ← Nat.pow_add, Int.toNat_sub b a, Nat.add_comm, Nat.sub_add_sub_cancel hab (Nat.le_of_succ_le h2)]
    · -- below the Hilbert levels the code divides the two counts: 12 and 60 divide 60 * 4^(b-1)
      have hd : getNumCells a ∣ getNumCells b ∧ getNumCells a ≠ 0 := by
        rw [getNumCells_nat, getNumCells_nat, if_neg hb]
        have : a = 0 ∨ a = 1 := by omega
        rcases this with rfl | rfl <;> exact ⟨Dvd.dvd.mul_right (by decide) _, by decide⟩
      rw [if_neg (by omega)]
      show _ = _ * (_ / if getNumCells a = 0 then 1 else getNumCells a)
      rw [if_neg hd.2, Nat.mul_div_cancel' hd.1]

theorem getNumCells_eq_fan {r : Nat} (hr : r ≤ 29) : getNumCells (r : Int) = fan 0 (r + 1) := by
  rw [getNumCells_nat, fan_zero_succ hr, npos_pow]
  split
  · subst r
    rfl
  · rfl

theorem getNumChildren_node {a b : Nat} (hab : a ≤ b) (hb : b ≤ 30) {ρa ρb : Int} (hρa : ρa + 1 = a) (hρb : ρb + 1 = b) :
    getNumChildren ρa ρb = fan a b := by
  rcases b with _ | b
  · obtain rfl := Nat.le_zero.1 hab
    obtain rfl : ρa = ρb := (Int.add_left_inj 1).1 (hρa.trans hρb.symm)
    rw [getNumChildren_self, fan_self]
  obtain rfl : ρb = b := (Int.add_left_inj 1).1 hρb
  have hb' : b ≤ 29 := Nat.le_of_succ_le_succ hb
  rcases a with _ | a
  · obtain rfl : ρa = -1 := (Int.add_left_inj 1).1 hρa
    exact (getNumChildren_world b).trans (getNumCells_eq_fan hb')
  · obtain rfl : ρa = a := (Int.add_left_inj 1).1 hρa
    have har := Nat.le_of_succ_le_succ hab
    have h := getNumCells_mul har
    rw [getNumCells_eq_fan hb', getNumCells_eq_fan (Nat.le_trans har hb'), ← fan_mul (Nat.zero_le _) hab hb] at h
    exact (Nat.eq_of_mul_eq_mul_left (fan_pos (Nat.zero_le _) (Nat.le_trans hab hb)) h).symm

/-- the level-`b` nodes under the node with index `i` of level `a`, in id order -/
def below (a i b : Nat) : List Nat := (List.range' (i * fan a b) (fan a b)).map (node b)

theorem below_self (a i : Nat) : below a i a = [node a i] := by
  rw [below, fan_self, Nat.mul_one]
  rfl

theorem flatMap_range' (c m n : Nat) :
    (List.range' c m).flatMap (fun T => List.range' (T * n) n) = List.range' (c * n) (m * n) := by
  induction m generalizing c with
  | zero => simp
  | succ m ih =>
    rw [List.range'_succ, List.flatMap_cons, ih, Nat.add_mul, Nat.one_mul, Nat.add_mul, Nat.one_mul, Nat.add_comm (m * n),
      ← List.range'_append, Nat.one_mul]

theorem below_flatMap {a m b : Nat} (ham : a ≤ m) (hmb : m ≤ b) (hb : b ≤ 30) (i : Nat) :
    (List.range' (i * fan a m) (fan a m)).flatMap (fun j => below m j b) = below a i b := by
  unfold below
  rw [← List.map_flatMap, flatMap_range', Nat.mul_assoc, fan_mul ham hmb hb]

theorem below_length (a i b : Nat) : (below a i b).length = fan a b := by
  rw [below, List.length_map, List.length_range']

theorem below_nodup {a b : Nat} (i : Nat) (hab : a ≤ b) : (below a i b).Nodup := by
  rcases b with _ | r
  · rw [Nat.le_zero.1 hab, below_self]
    exact List.nodup_singleton _
  · exact (List.nodup_range' 1).map fun _ _ => node_succ_inj

theorem mem_below {a i b x : Nat} (hab : a ≤ b) (hb : b ≤ 30) : x ∈ below a i b ↔ ∃ j, j / fan a b = i ∧ x = node b j := by
  have hF := fan_pos hab hb
  simp only [below, List.mem_map, List.mem_range'_1, Nat.div_eq_iff hF]
  exact ⟨fun ⟨j, h, e⟩ => ⟨j, ⟨h.1, Nat.le_sub_one_of_lt h.2⟩, e.symm⟩,
    fun ⟨j, h, e⟩ => ⟨j, ⟨h.1, Nat.lt_of_le_sub_one (Nat.add_pos_right _ hF) h.2⟩, e.symm⟩⟩

theorem mem_below_iff_covers {a i b : Nat} (h : IsNode a i) (hab : a ≤ b) (hb : b ≤ 30) {ρ : Int} (hρ : ρ + 1 = b) (x : Nat) :
    x ∈ below a i b ↔ ValidId x ∧ getResolution x = ρ ∧ Covers (node a i) x := by
  rw [mem_below hab hb]
  constructor
  · rintro ⟨j, rfl, rfl⟩
    have hj : IsNode b j := .of_anc hab hb h
    have hr := getResolution_node hj
    exact ⟨validId_iff_node.2 ⟨b, j, hj, rfl⟩, hr.trans (Int.sub_eq_iff_eq_add.2 hρ.symm), (covers_node h hj).2 ⟨hab, rfl⟩⟩
  · rintro ⟨hv, hr, hc⟩
    obtain ⟨ℓ, j, hj, rfl⟩ := validId_iff_node.1 hv
    obtain rfl : ℓ = b := by
      rw [getResolution_node hj] at hr
      exact Int.ofNat_inj.1 ((Int.sub_eq_iff_eq_add.1 hr).trans hρ)
    exact ⟨j, ((covers_node h hj).1 hc).2, rfl⟩

theorem cellToChildren_eq {n : Nat} {c : Cell} (hd : deserialize n = .ok c) (b : Int) :
    cellToChildren n (some b) =
      if b < c.res then .error .value else if b > 30 then .error .value else if b = c.res then .ok [n]
      else (childTriples (if c.res = -1 then List.range 12 else [c.origin])
          (if (c.res = -1 ∧ b > 0) ∨ c.res = 0 then [0, 1, 2, 3, 4] else [c.segment])
          (4 ^ (max 0 (b - max c.res 1)).toNat)).mapM fun p : Nat × Int × Nat =>
        serialize { origin := p.1, segment := p.2.1, S := c.S * 2 ^ (2 * max 0 (b - max c.res 1)).toNat + (p.2.2 : Int),
                    res := b } := by
  unfold cellToChildren
  rw [hd, bind_ok, MAXR_eq, FHR_eq, ORIGIN_IDS_eq]
  rfl

/-- the three nested loops: every (origin, segment) gets the cells below the cell of resolution `a` with that top
    value and position `S` -/
theorem children_mapM {os : List Nat} {segs : List Int} {S a b : Nat} (ha : 1 ≤ a) (hab : a ≤ b) (hb : b ≤ 29)
    (hS : S < npos a) :
    (childTriples os segs (4 ^ (b - a))).mapM
        (fun p : Nat × Int × Nat =>
          serialize { origin := p.1, segment := p.2.1, S := (S : Int) * (4 ^ (b - a) : Nat) + (p.2.2 : Int), res := (b : Int) })
      = .ok (os.flatMap fun o => segs.flatMap fun s => below (a + 1) (topOf o s b * npos a + S) (b + 1)) := by
  have hF := fan_hilbert ha hab hb
  have hn := npos_mul_pow ha hab
  have hS' := Nat.mul_le_mul_right (4 ^ (b - a)) hS
  rw [Nat.succ_mul, hn] at hS'
  rw [mapM_ok _ (fun p : Nat × Int × Nat => node (b + 1) ((topOf p.1 p.2.1 b * npos a + S) * 4 ^ (b - a) + p.2.2))]
  · simp only [childTriples, below, hF, List.map_flatMap, List.map_map, List.range'_eq_map_range]
    rfl
  · intro x hx
    simp only [childTriples, List.mem_flatMap, List.mem_map, List.mem_range] at hx
    obtain ⟨o, -, s, -, i, hi, rfl⟩ := hx
    have hlt := Nat.lt_of_lt_of_le (Nat.add_lt_add_left hi _) hS'
    dsimp only
    rw [← Int.natCast_mul, ← Int.natCast_add, serialize_ok o s _ b hb hlt, encId_eq_node hb hlt, ← hn, Nat.add_mul,
      Nat.mul_assoc, Nat.add_assoc]

/-- a request for a level below the cell's, with `a` the resolution from which the Hilbert digits count -/
theorem cellToChildren_finer {n : Nat} {c : Cell} (hd : deserialize n = .ok c) {S a b : Nat} (hlt : c.res < b)
    (ha : max c.res 1 = a) (hab : a ≤ b) (hb : b ≤ 29) (hS : c.S = S) (hSa : S < npos a) :
    cellToChildren n (some (b : Int)) =
      .ok ((if c.res = -1 then List.range 12 else [c.origin]).flatMap fun o =>
        (if c.res = -1 ∨ c.res = 0 then [0, 1, 2, 3, 4] else [c.segment]).flatMap fun s =>
          below (a + 1) (topOf o s b * npos a + S) (b + 1)) := by
  have ha1 : 1 ≤ a := Int.ofNat_le.1 (ha ▸ Int.le_max_right _ _)
  have e3 : (if (c.res = -1 ∧ (b : Int) > 0) ∨ c.res = 0 then ([0, 1, 2, 3, 4] : List Int) else [c.segment]) =
      if c.res = -1 ∨ c.res = 0 then [0, 1, 2, 3, 4] else [c.segment] :=
    if_congr (or_congr_left (and_iff_left_of_imp fun _ => Int.ofNat_lt.2 (Nat.lt_of_lt_of_le ha1 hab))) rfl rfl
  rw [cellToChildren_eq hd, if_neg (Int.not_lt.2 (Int.le_of_lt hlt)), if_neg (by omega), if_neg (Int.ne_of_gt hlt), ha,
    ← Int.ofNat_sub hab, max_eq_right (Int.natCast_nonneg _), Int.toNat_natCast, two_pow_toNat, e3, hS]
  exact children_mapM ha1 hab hb hSa

/-- the five segments of a face, counted from any first quintant, are its five relative segments -/
theorem rot_perm : ∀ q : Fin 5,
    (([0, 1, 2, 3, 4] : List Int).map fun s : Int => ((s - ((q : Nat) : Int) + 5) % 5).toNat).Perm (List.range 5) := by
  decide

theorem segs_perm {o : Nat} (ho : o < 12) {b : Nat} (hb : b ≠ 0) :
    (([0, 1, 2, 3, 4] : List Int).map fun s => topOf o s b).Perm (List.range' (5 * o) 5) := by
  obtain ⟨h0, h5⟩ := firstQuintant_range o ho
  have := (rot_perm ⟨(firstQuintant o).toNat, (Int.toNat_lt h0).2 h5⟩).map (5 * o + ·)
  rw [List.range'_eq_map_range]
  unfold topOf
  simpa only [if_neg hb, List.map_map, Function.comp_def, Int.toNat_of_nonneg h0] using this

/-- `* npos 1 + 0` is the shape in which `cellToChildren_finer` hands over the five segments -/
theorem face_perm {o b : Nat} (ho : o < 12) (hb1 : 1 ≤ b) (hb : b ≤ 29) :
    (([0, 1, 2, 3, 4] : List Int).flatMap fun s => below 2 (topOf o s b * npos 1 + 0) (b + 1)).Perm (below 1 o (b + 1)) := by
  simp only [show npos 1 = 1 from rfl, Nat.mul_one, Nat.add_zero]
  rw [← below_flatMap (Nat.le_succ 1) (Nat.succ_le_succ hb1) (Nat.succ_le_succ hb) o, show fan 1 2 = 5 by decide,
    Nat.mul_comm o 5, ← List.flatMap_map (fun s => topOf o s b) fun T => below 2 T (b + 1)]
  exact (segs_perm ho (Nat.ne_of_gt hb1)).flatMap_right _

/-- the one request `cellToChildren_finer` does not take: from the world cell to resolution 0, below the `a = 1` from which it counts -/
theorem cellToChildren_world_zero : cellToChildren 0 (some 0) = .ok (below 0 0 1) := by decide

theorem cellToChildren_self {ℓ i : Nat} (h : IsNode ℓ i) {ρ : Int} (hρ : ρ + 1 = ℓ) :
    cellToChildren (node ℓ i) (some ρ) = .ok [node ℓ i] := by
  obtain ⟨c, hd, hc⟩ := deserialize_node_res h
  obtain rfl : ρ = c.res := (Int.add_left_inj 1).1 (hρ.trans hc.symm)
  have := h.1
  rw [cellToChildren_eq hd, if_neg (Int.lt_irrefl _), if_neg (by omega), if_pos rfl]

theorem children_hilbert {r i b : Nat} (h : IsNode (r + 2) i) (hlt : r + 1 < b) (hb : b ≤ 29) :
    cellToChildren (node (r + 2) i) (some (b : Int)) = .ok (below (r + 2) i (b + 1)) := by
  rw [cellToChildren_finer (deserialize_node h) (a := r + 1) (hlt := Int.ofNat_lt.2 hlt)
    (ha := max_eq_left (Int.ofNat_le.2 (Nat.succ_pos r))) (hab := Nat.le_of_lt hlt) (hb := hb) (hS := rfl) (hSa := h.wf.2.1)]
  unfold decodeCell
  simp only
  rw [if_neg (by omega), if_neg (Nat.succ_ne_zero r), if_neg (by omega), if_neg (Nat.succ_ne_zero r), List.flatMap_singleton,
    List.flatMap_singleton, topOf_segment _ b, if_neg (Nat.ne_zero_of_lt hlt), Nat.div_add_mod']

theorem children_face {i b : Nat} (h : IsNode 1 i) (hb1 : 1 ≤ b) (hb : b ≤ 29) :
    ∃ L, cellToChildren (node 1 i) (some (b : Int)) = .ok L ∧ L.Perm (below 1 i (b + 1)) := by
  refine ⟨_, cellToChildren_finer (deserialize_node h) (a := 1) (S := 0) (hlt := Int.ofNat_lt.2 hb1) (ha := rfl)
    (hab := hb1) (hb := hb) (hS := congrArg Nat.cast (Nat.mod_one i)) (hSa := Nat.one_pos), ?_⟩
  unfold decodeCell
  simp only [show npos 0 = 1 from rfl, Nat.div_one]
  rw [if_pos (by omega), if_neg (by omega), if_pos trivial, List.flatMap_singleton]
  exact face_perm h.2 hb1 hb

theorem children_world {b : Nat} (hb1 : 1 ≤ b) (hb : b ≤ 29) :
    ∃ L, cellToChildren 0 (some (b : Int)) = .ok L ∧ L.Perm (below 0 0 (b + 1)) := by
  refine ⟨_, cellToChildren_finer deserialize_world (a := 1) (S := 0) (hlt := by simp only; omega) (ha := rfl)
    (hab := hb1) (hb := hb) (hS := rfl) (hSa := Nat.one_pos), ?_⟩
  simp only
  rw [if_pos (Or.inl trivial), if_pos trivial, ← below_flatMap (Nat.zero_le 1) (Nat.succ_le_succ (Nat.zero_le b)) (Nat.succ_le_succ hb) 0,
    show fan 0 1 = 12 by decide, Nat.zero_mul, ← List.range_eq_range']
  exact List.Perm.flatMap_left _ fun o ho => face_perm (List.mem_range.1 ho) hb1 hb

theorem children_node {a i b : Nat} (h : IsNode a i) (hab : a ≤ b) (hb : b ≤ 30) {ρ : Int} (hρ : ρ + 1 = b) :
    ∃ L, cellToChildren (node a i) (some ρ) = .ok L ∧ L.Perm (below a i b) ∧ (2 ≤ a → L = below a i b) := by
  rcases Nat.eq_or_lt_of_le hab with rfl | hlt
  · exact ⟨_, cellToChildren_self h hρ, by rw [below_self], fun _ => (below_self a i).symm⟩
  obtain ⟨b, rfl⟩ := Nat.exists_eq_add_one_of_ne_zero (Nat.ne_zero_of_lt hlt)
  obtain rfl : ρ = b := (Int.add_left_inj 1).1 hρ
  have hb' : b ≤ 29 := Nat.le_of_succ_le_succ hb
  rcases a with _ | _ | r
  · obtain rfl := isNode_zero.1 h
    rcases Nat.eq_zero_or_pos b with rfl | hb1
    · exact ⟨_, cellToChildren_world_zero, .refl _, fun _ => rfl⟩
    · obtain ⟨L, h1, h2⟩ := children_world hb1 hb'
      exact ⟨L, h1, h2, fun h2 => absurd h2 (by decide)⟩
  · obtain ⟨L, h1, h2⟩ := children_face h (Nat.le_of_succ_le_succ hlt) hb'
    exact ⟨L, h1, h2, fun h2 => absurd h2 (by decide)⟩
  · exact ⟨_, children_hilbert h (Nat.lt_of_succ_lt_succ hlt) hb', .refl _, fun _ => rfl⟩

theorem children_spec_node {a i b : Nat} (h : IsNode a i) (hab : a ≤ b) (hb : b ≤ 30) {ρ : Int} (hρ : ρ + 1 = b) :
    ∃ L, cellToChildren (node a i) (some ρ) = .ok L ∧ L.Nodup ∧ L.length = fan a b ∧
      ∀ x, x ∈ L ↔ ValidId x ∧ getResolution x = ρ ∧ Covers (node a i) x := by
  obtain ⟨L, h1, h2, -⟩ := children_node h hab hb hρ
  exact ⟨L, h1, h2.nodup_iff.2 (below_nodup i hab), h2.length_eq.trans (below_length a i b),
    fun x => h2.mem_iff.trans (mem_below_iff_covers h hab hb hρ x)⟩

theorem world_children_enumeration (r : Nat) (hr : r ≤ 29) :
    ∃ L, cellToChildren WORLD_CELL (some (r : Int)) = .ok L ∧ L.Nodup ∧ L.length = getNumCells r ∧
      ∀ x, x ∈ L ↔ (ValidId x ∧ getResolution x = (r : Int)) := by
  have h0 : IsNode 0 0 := isNode_zero.2 rfl
  obtain ⟨L, h1, h2, h3, h4⟩ := children_spec_node h0 (Nat.zero_le (r + 1)) (Nat.succ_le_succ hr) (ρ := r) rfl
  refine ⟨L, by rw [WORLD_CELL_eq]; exact h1, h2, by rw [h3, getNumCells_eq_fan hr], fun x => ?_⟩
  rw [h4]
  refine ⟨fun ⟨hv, hres, _⟩ => ⟨hv, hres⟩, fun ⟨hv, hres⟩ => ⟨hv, hres, ?_⟩⟩
  obtain ⟨ℓ, j, hj, rfl⟩ := validId_iff_node.1 hv
  exact (covers_node h0 hj).2 ⟨Nat.zero_le ℓ, Nat.div_eq_of_lt hj.2⟩

theorem cellToChildren_coarser {ℓ i : Nat} (h : IsNode ℓ i) (b : Int) (hb : b + 1 < ℓ) :
    cellToChildren (node ℓ i) (some b) = .error .value := by
  obtain ⟨c, hd, hc⟩ := deserialize_node_res h
  rw [cellToChildren_eq hd, if_pos (Int.lt_of_add_lt_add_right (hc ▸ hb))]

theorem cellToChildren_too_fine {ℓ i : Nat} (h : IsNode ℓ i) (b : Int) (hb : 30 < b) :
    cellToChildren (node ℓ i) (some b) = .error .value := by
  obtain ⟨c, hd, hc⟩ := deserialize_node_res h
  have := h.1
  rw [cellToChildren_eq hd, if_neg (by omega), if_pos hb]

end A5
