/-
  Structure of the ring returned by `cell_to_boundary` (facts that hold whatever the floating-point values are).
  Core Lean only.
-/
import A5.Model.CellGeo
import A5.Proofs.ShapeLength
import A5.Proofs.PyM

namespace A5.CellGeo
open A5.F A5.Geo

theorem mkShape_length (vs : List V2) : (mkShape vs).length = vs.length := by
  unfold mkShape; split <;> simp

theorem pentagonVertices_length (h q : Nat) (a : Hilbert.Anchor) : (pentagonVertices h q a).length = 5 := by
  unfold pentagonVertices
  rw [Planar.place_length]
  simp [Tables.TRIANGLE_MODE, pentagonBase]

theorem normalizeLongitudes_length (c : List V2) : (normalizeLongitudes c).length = c.length := by
  unfold normalizeLongitudes; simp

theorem splitEdges_length (vs : List V2) (seg : Int) : (splitEdges vs seg).length = vs.length * (max seg 1).toNat := by
  unfold splitEdges
  split
  · rw [show max seg 1 = 1 by omega]
    simp
  · have hs : seg.toNat - 1 + 1 = (max seg 1).toNat := by omega
    simp only [mkShape_length, List.length_flatMap, List.length_cons, List.length_map, List.length_range, hs,
      List.map_const', List.sum_replicate_nat]

/-- 3 for the quintant triangle at resolution 1 = FIRST_HILBERT_RESOLUTION − 1 -/
def cornerCount (res : Int) : Nat := if res = 1 then 3 else 5

theorem getPentagon_length {c : Cell} {p : List V2} (h : getPentagon c = .ok p) : p.length = cornerCount c.res := by
  unfold getPentagon at h
  dsimp only at h
  -- `FHR_eq` of Proofs/Ids.lean, decided here so that this file stays without Mathlib
  have hF : FHR = 2 := by decide
  unfold cornerCount
  by_cases h1 : c.res = FHR - 1
  · rw [if_pos h1] at h
    obtain rfl := Except.ok.inj h
    rw [if_pos (by omega)]
    simp [quintantShape, transformShape, mkShape_length, triangleBase]
  · rw [if_neg h1] at h
    rw [if_neg (by omega)]
    by_cases h0 : c.res = FHR - 2
    · rw [if_pos h0] at h
      obtain rfl := Except.ok.inj h
      unfold faceVertices
      rw [mkShape_length, List.length_map, List.length_range]
    · rw [if_neg h0] at h
      obtain ⟨a, _, h⟩ := bind_eq_ok h
      obtain rfl := Except.ok.inj h
      exact pentagonVertices_length _ _ _

def effectiveSegments (res : Int) (segments : Option Int) : Int :=
  match segments with
  | some s => s
  | none => max 1 (if 6 - res ≥ 0 then (2 : Int) ^ (6 - res).toNat else 0)

end A5.CellGeo
