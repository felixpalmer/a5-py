/-
  Planar congruence (C03/C04/C11/C02/C12 skeleton), in exact arithmetic: the planar polygon of EVERY cell is the base shape, read
  backwards iff mirrored, under ONE explicit affine map (`place_image`): a sign on each axis and a shift (`shapeMap`, the 16 shapes),
  then the lattice translation, the scaling by 2^−h and the quintant matrix (`frame`).  Its determinant (`placeMap_aff`) and similarity
  ratio (`frame_sim`, `shapeMap_sim`) are stated once; area (C04), similarity (C11), non-degeneracy and the centroid formula are read off.
  The statement is about `Planar.place`, the very function the executable model runs (on doubles) for `get_pentagon_vertices`.
-/
import A5.Proofs.ShapeLength
import A5.Proofs.ScalarRat
import Mathlib.Tactic.Ring
import Mathlib.Tactic.Linarith
import Mathlib.Data.List.Nodup

namespace A5.Planar
open A5.Hilbert

theorem len5 {β : Type} (p : List β) (h : p.length = 5) : ∃ a b c d e, p = [a, b, c, d, e] := by
  match p, h with
  | [a, b, c, d, e], _ => exact ⟨a, b, c, d, e, rfl⟩

def IsAff (T : ℚ × ℚ → ℚ × ℚ) (d : ℚ) : Prop :=
  ∃ m11 m12 m21 m22 t1 t2 : ℚ, (∀ v, T v = (m11 * v.1 + m12 * v.2 + t1, m21 * v.1 + m22 * v.2 + t2)) ∧ m11 * m22 - m12 * m21 = d

theorem aff_comp {f g : ℚ × ℚ → ℚ × ℚ} {d1 d2 : ℚ} (hf : IsAff f d1) (hg : IsAff g d2) : IsAff (f ∘ g) (d1 * d2) := by
  obtain ⟨a11, a12, a21, a22, s1, s2, hf', hd1⟩ := hf
  obtain ⟨b11, b12, b21, b22, u1, u2, hg', hd2⟩ := hg
  refine ⟨a11 * b11 + a12 * b21, a11 * b12 + a12 * b22, a21 * b11 + a22 * b21, a21 * b12 + a22 * b22,
    a11 * u1 + a12 * u2 + s1, a21 * u1 + a22 * u2 + s2, ?_, ?_⟩
  · intro v; simp only [Function.comp, hg', hf']; ext <;> simp only <;> ring
  · rw [← hd1, ← hd2]; ring

theorem aff_translate (t : ℚ × ℚ) : IsAff (fun v : ℚ × ℚ => (v.1 + t.1, v.2 + t.2)) 1 :=
  ⟨1, 0, 0, 1, t.1, t.2, fun v => by simp, by norm_num⟩
theorem aff_scale (s : ℚ) : IsAff (fun v : ℚ × ℚ => (v.1 * s, v.2 * s)) (s * s) :=
  ⟨s, 0, 0, s, 0, 0, fun v => by simp [mul_comm], by ring⟩
theorem aff_mat (m : ℚ × ℚ × ℚ × ℚ) : IsAff (applyMat m) (m.1 * m.2.2.2 - m.2.1 * m.2.2.1) :=
  ⟨m.1, m.2.1, m.2.2.1, m.2.2.2, 0, 0, fun v => by simp [applyMat], rfl⟩

def dist2 (u v : ℚ × ℚ) : ℚ := (u.1 - v.1) ^ 2 + (u.2 - v.2) ^ 2

/-- `ρ` is the SQUARED ratio -/
def IsSim (T : ℚ × ℚ → ℚ × ℚ) (ρ : ℚ) : Prop := ∀ u v, dist2 (T u) (T v) = ρ * dist2 u v

theorem sim_comp {f g : ℚ × ℚ → ℚ × ℚ} {σ ρ : ℚ} (hf : IsSim f σ) (hg : IsSim g ρ) : IsSim (f ∘ g) (σ * ρ) := by
  intro u v
  rw [Function.comp, Function.comp, hf, hg, mul_assoc]

theorem sim_translate (t : ℚ × ℚ) : IsSim (fun v : ℚ × ℚ => (v.1 + t.1, v.2 + t.2)) 1 := by
  intro u v; simp only [dist2, add_sub_add_right_eq_sub, one_mul]
theorem sim_scale (s : ℚ) : IsSim (fun v : ℚ × ℚ => (v.1 * s, v.2 * s)) (s * s) := by
  intro u v; simp only [dist2]; ring
theorem sim_orth (m : ℚ × ℚ × ℚ × ℚ) (h1 : m.1 * m.1 + m.2.2.1 * m.2.2.1 = 1) (h2 : m.2.1 * m.2.1 + m.2.2.2 * m.2.2.2 = 1)
    (h3 : m.1 * m.2.1 + m.2.2.1 * m.2.2.2 = 0) : IsSim (applyMat m) 1 := by
  intro u v
  simp only [applyMat, dist2, sc_add, sc_mul, one_mul]
  have e : (m.1 * u.1 + m.2.1 * u.2 - (m.1 * v.1 + m.2.1 * v.2)) ^ 2 + (m.2.2.1 * u.1 + m.2.2.2 * u.2 - (m.2.2.1 * v.1 + m.2.2.2 * v.2)) ^ 2
      = (m.1 * m.1 + m.2.2.1 * m.2.2.1) * (u.1 - v.1) ^ 2 + (m.2.1 * m.2.1 + m.2.2.2 * m.2.2.2) * (u.2 - v.2) ^ 2
        + 2 * (m.1 * m.2.1 + m.2.2.1 * m.2.2.2) * ((u.1 - v.1) * (u.2 - v.2)) := by ring
  rw [e, h1, h2, h3]; ring

theorem IsSim.injective {T : ℚ × ℚ → ℚ × ℚ} {ρ : ℚ} (hρ : ρ ≠ 0) (hT : IsSim T ρ) : Function.Injective T := by
  intro u v huv
  have h := hT u v
  rw [huv, show dist2 (T v) (T v) = 0 by simp [dist2]] at h
  obtain ⟨h1, h2⟩ := (add_eq_zero_iff_of_nonneg (sq_nonneg _) (sq_nonneg _)).1 ((mul_eq_zero.1 h.symm).resolve_left hρ)
  exact Prod.ext (sub_eq_zero.1 (pow_eq_zero_iff two_ne_zero |>.1 h1)) (sub_eq_zero.1 (pow_eq_zero_iff two_ne_zero |>.1 h2))

/-- `area` walks the indices (`getD`, `(i + 1) % n`); the proofs need it at five vertices only, where it is this sum (the any-length
    statement is `C14.affine_scales_polygon`, about its own `ring2`) -/
theorem area5 (a b c d e : ℚ × ℚ) :
    area [a, b, c, d, e] =
      (b.1 - a.1) * (b.2 + a.2) + (c.1 - b.1) * (c.2 + b.2) + (d.1 - c.1) * (d.2 + c.2) + (e.1 - d.1) * (e.2 + d.2) + (a.1 - e.1) * (a.2 + e.2) := by
  rw [← zero_add ((b.1 - a.1) * (b.2 + a.2))]    -- the fold starts from `zero`; `rfl` evaluates `% n` once `n` is a sum of numerals
  simp only [area, List.length_cons, List.length_nil]
  rfl

theorem area_map {T : ℚ × ℚ → ℚ × ℚ} {d : ℚ} (hT : IsAff T d) (p : List (ℚ × ℚ)) (hp : p.length = 5) :
    area (p.map T) = d * area p := by
  obtain ⟨m11, m12, m21, m22, t1, t2, hT, rfl⟩ := hT
  obtain ⟨a, b, c, e, f, rfl⟩ := len5 p hp
  simp only [List.map, area5, hT]
  ring

theorem area_reverse (p : List (ℚ × ℚ)) (hp : p.length = 5) : area p.reverse = -area p := by
  obtain ⟨a, b, c, d, e, rfl⟩ := len5 p hp
  simp only [List.reverse_cons, List.reverse_nil, List.nil_append, List.cons_append, area5]; ring

def cen (vs : List (ℚ × ℚ)) : ℚ × ℚ := ((vs.map Prod.fst).sum / 5, (vs.map Prod.snd).sum / 5)

theorem cen_map {T : ℚ × ℚ → ℚ × ℚ} {d : ℚ} (h : IsAff T d) (p : List (ℚ × ℚ)) (hp : p.length = 5) : cen (p.map T) = T (cen p) := by
  obtain ⟨m11, m12, m21, m22, t1, t2, hT, _⟩ := h
  obtain ⟨a, b, c, e, f, rfl⟩ := len5 p hp
  simp only [cen, List.map, List.sum_cons, List.sum_nil, hT]
  ext <;> simp only <;> ring

theorem mkShape_area_nonneg (vs : List (ℚ × ℚ)) (h : vs.length = 5) : 0 ≤ area (mkShape vs) := by
  unfold mkShape
  simp only [sc_lt, zero, sc_ofInt, Int.cast_zero, decide_eq_true_eq]
  split
  · rename_i hlt; rw [area_reverse vs h]; exact neg_nonneg.2 hlt.le
  · rename_i hge; exact not_lt.1 hge

/-- `place` up to (not including) `translate p translation` -/
def shapeOf (base : List (ℚ × ℚ)) (shiftL shiftR : ℚ × ℚ) (fl : Flips) (k : Nat) : List (ℚ × ℚ) :=
  let p := mkShape base
  let fx := fl.1
  let fy := fl.2
  let p := if !fx && fy then rotate180 p else p
  let bothOrNone := fx == fy
  let p := if (bothOrNone && k > 1) || (!bothOrNone && (k == 0 || k == 3)) then reflectY p else p
  if fx && fy then rotate180 p else if fx then translate p shiftL else if fy then translate p shiftR else p

/-- whether `place` reflects the shape (`reflectY` also reverses the vertex order) -/
def mirrored (fl : Flips) (k : Nat) : Bool :=
  (fl.1 == fl.2 && decide (k > 1)) || (!(fl.1 == fl.2) && (k == 0 || k == 3))

def sgn (b : Bool) : ℚ := if b then -1 else 1

theorem sgn_mul_self (b : Bool) : sgn b * sgn b = 1 := by
  cases b <;> norm_num [sgn]

def shapeShift (sl sr : ℚ × ℚ) (fl : Flips) : ℚ × ℚ :=
  if fl.1 && fl.2 then (0, 0) else if fl.1 then sl else if fl.2 then sr else (0, 0)

/-- what `place` does to the base shape before the lattice translation: a sign on each axis, then a shift.  `rotate180` fires exactly
    when the second flip is set (before the reflection if the first is not, after it if it is), hence `sgn fl.2` on both axes; the
    reflection adds `sgn (mirrored fl k)` on y. -/
def shapeMap (sl sr : ℚ × ℚ) (fl : Flips) (k : Nat) (v : ℚ × ℚ) : ℚ × ℚ :=
  (sgn fl.2 * v.1 + (shapeShift sl sr fl).1, sgn fl.2 * sgn (mirrored fl k) * v.2 + (shapeShift sl sr fl).2)

theorem shapeOf_eq (base : List (ℚ × ℚ)) (sl sr : ℚ × ℚ) (fl : Flips) (k : Nat) :
    shapeOf base sl sr fl k =
      (if mirrored fl k then (mkShape base).reverse else mkShape base).map (shapeMap sl sr fl k) := by
  obtain ⟨fx, fy⟩ := fl
  unfold shapeOf shapeMap shapeShift
  simp only
  generalize mkShape base = p
  generalize hm : mirrored (fx, fy) k = m
  simp only [mirrored] at hm
  rw [hm]
  cases fx <;> cases fy <;> cases m <;>
    simp [rotate180, reflectY, translate, sgn, Function.comp_def]

theorem shapeOf_length (base : List (ℚ × ℚ)) (sl sr : ℚ × ℚ) (fl : Flips) (k : Nat) :
    (shapeOf base sl sr fl k).length = base.length := by
  rw [shapeOf_eq]
  split <;> simp

theorem shapeMap_aff (sl sr : ℚ × ℚ) (fl : Flips) (k : Nat) : IsAff (shapeMap sl sr fl k) (sgn (mirrored fl k)) :=
  ⟨sgn fl.2, 0, 0, sgn fl.2 * sgn (mirrored fl k), (shapeShift sl sr fl).1, (shapeShift sl sr fl).2, fun v => by simp [shapeMap],
    by rw [← mul_assoc, sgn_mul_self]; ring⟩

theorem shapeMap_sim (sl sr : ℚ × ℚ) (fl : Flips) (k : Nat) : IsSim (shapeMap sl sr fl k) 1 := by
  intro u v
  simp only [shapeMap, dist2]
  have e : ∀ (s x y t : ℚ), (s * x + t - (s * y + t)) ^ 2 = s * s * (x - y) ^ 2 := by
    intros
    ring
  rw [e, e, mul_mul_mul_comm, sgn_mul_self, sgn_mul_self]
  ring

def frame (basis rot : ℚ × ℚ × ℚ × ℚ) (h : Nat) (x y : ℚ) (v : ℚ × ℚ) : ℚ × ℚ :=
  applyMat rot ((v.1 + (basis.1 * x + basis.2.1 * y)) * (1 / 2 ^ h), (v.2 + (basis.2.2.1 * x + basis.2.2.2 * y)) * (1 / 2 ^ h))

theorem place_eq (base : List (ℚ × ℚ)) (basis : ℚ × ℚ × ℚ × ℚ) (sl sr : ℚ × ℚ) (rot : ℚ × ℚ × ℚ × ℚ) (h : Nat) (a : Anchor) :
    place base basis sl sr rot h a = (shapeOf base sl sr a.flips a.k).map (frame basis rot h a.i a.j) := by
  show transform (scaleBy (translate (shapeOf base sl sr a.flips a.k) _) _) rot = _
  simp only [translate, scaleBy, transform, List.map_map, sc_ofInt, Int.cast_one, Int.cast_pow, Int.cast_ofNat]
  rfl

theorem four_pow (h : Nat) : (1 / 2 ^ h : ℚ) * (1 / 2 ^ h) = 1 / 4 ^ h := by
  rw [one_div_mul_one_div, ← mul_pow, show (2 : ℚ) * 2 = 4 by norm_num]

theorem frame_aff (basis rot : ℚ × ℚ × ℚ × ℚ) (h : Nat) (x y : ℚ) :
    IsAff (frame basis rot h x y) ((rot.1 * rot.2.2.2 - rot.2.1 * rot.2.2.1) * (1 / 4 ^ h)) := by
  have := aff_comp (aff_mat rot)
    (aff_comp (aff_scale (1 / 2 ^ h)) (aff_translate (basis.1 * x + basis.2.1 * y, basis.2.2.1 * x + basis.2.2.2 * y)))
  rwa [mul_one, four_pow] at this

theorem frame_sim (basis rot : ℚ × ℚ × ℚ × ℚ) (h1 : rot.1 * rot.1 + rot.2.2.1 * rot.2.2.1 = 1)
    (h2 : rot.2.1 * rot.2.1 + rot.2.2.2 * rot.2.2.2 = 1) (h3 : rot.1 * rot.2.1 + rot.2.2.1 * rot.2.2.2 = 0) (h : Nat) (x y : ℚ) :
    IsSim (frame basis rot h x y) (1 / 4 ^ h) := by
  have := sim_comp (sim_orth rot h1 h2 h3)
    (sim_comp (sim_scale (1 / 2 ^ h)) (sim_translate (basis.1 * x + basis.2.1 * y, basis.2.2.1 * x + basis.2.2.2 * y)))
  rwa [mul_one, one_mul, four_pow] at this

theorem place_image (base : List (ℚ × ℚ)) (basis : ℚ × ℚ × ℚ × ℚ) (sl sr : ℚ × ℚ) (rot : ℚ × ℚ × ℚ × ℚ) (h : Nat) (a : Anchor) :
    place base basis sl sr rot h a =
      (if mirrored a.flips a.k then (mkShape base).reverse else mkShape base).map
        (frame basis rot h a.i a.j ∘ shapeMap sl sr a.flips a.k) := by
  rw [place_eq, shapeOf_eq, List.map_map]

/-- the shape in which `Sim` and `Aff` ask for it -/
theorem place_cases (base : List (ℚ × ℚ)) (basis : ℚ × ℚ × ℚ × ℚ) (sl sr : ℚ × ℚ) (rot : ℚ × ℚ × ℚ × ℚ) (h : Nat) (a : Anchor) :
    place base basis sl sr rot h a = (mkShape base).map (frame basis rot h a.i a.j ∘ shapeMap sl sr a.flips a.k) ∨
      place base basis sl sr rot h a = (mkShape base).reverse.map (frame basis rot h a.i a.j ∘ shapeMap sl sr a.flips a.k) := by
  rw [place_image]
  split
  · exact Or.inr rfl
  · exact Or.inl rfl

theorem placeMap_aff (basis : ℚ × ℚ × ℚ × ℚ) (sl sr : ℚ × ℚ) (rot : ℚ × ℚ × ℚ × ℚ) (h : Nat) (x y : ℚ) (fl : Flips) (k : Nat) :
    IsAff (frame basis rot h x y ∘ shapeMap sl sr fl k)
      ((rot.1 * rot.2.2.2 - rot.2.1 * rot.2.2.1) * (1 / 4 ^ h) * sgn (mirrored fl k)) :=
  aff_comp (frame_aff basis rot h x y) (shapeMap_aff sl sr fl k)

theorem area_reverse_if (m : Bool) (p : List (ℚ × ℚ)) (hp : p.length = 5) :
    area (if m then p.reverse else p) = sgn m * area p := by
  cases m <;> simp [sgn, area_reverse p hp]

def Sim (p q : List (ℚ × ℚ)) (ρ : ℚ) : Prop := ∃ T, IsSim T ρ ∧ (q = p.map T ∨ q = p.reverse.map T)

theorem sim_nodup {p q : List (ℚ × ℚ)} {ρ : ℚ} (hρ : 0 < ρ) (h : Sim p q ρ) (hp : p.Nodup) : q.Nodup := by
  obtain ⟨T, hT, rfl | rfl⟩ := h
  · exact hp.map (hT.injective hρ.ne')
  · exact (List.nodup_reverse.2 hp).map (hT.injective hρ.ne')

end A5.Planar
