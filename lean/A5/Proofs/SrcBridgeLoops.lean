/-
  Source-level tie for `cell_to_children` (`SrcBridge.lean` holds the functions without loops over lists): `mapM` in
  `PyM` under the cast, the translated `for` loop that appends (`forAppend`), and the function against the model.
-/
import A5.Proofs.SrcBridge

namespace A5.Bridge
open A5

theorem mapM_bridge {α} (xs : List α) (f : α → PyM Int) (f' : α → PyM Nat)
    (h : ∀ x ∈ xs, f x = (f' x).map Int.ofNat) :
    xs.mapM f = (xs.mapM f').map (List.map Int.ofNat) := by
  induction xs with
  | nil => rfl
  | cons x xs ih =>
    rw [List.mapM_cons, List.mapM_cons, h x List.mem_cons_self, ih fun y hy => h y (List.mem_cons_of_mem _ hy)]
    simp only [bridge, List.map_cons]

local notation "sser" => Src.serialization.serialize

/-! ### cell_to_children: the three nested `for` loops are a `mapM` over the triples in loop order -/

theorem forAppend {α γ β} (F : γ → PyM β) (ex : α → List γ) (loop : List α → List β → PyM (List β))
    (hnil : ∀ acc, loop [] acc = pure acc)
    (hcons : ∀ x xs acc, loop (x :: xs) acc = ((ex x).mapM F >>= fun l => pure (acc ++ l)) >>= loop xs)
    (xs : List α) (acc : List β) :
    loop xs acc = (xs.flatMap ex).mapM F >>= fun l => pure (acc ++ l) := by
  induction xs generalizing acc with
  | nil => rw [hnil, List.flatMap_nil, List.mapM_nil, pure_bind, List.append_nil]
  | cons x xs ih =>
    rw [hcons, List.flatMap_cons, List.mapM_append]
    simp only [bind_assoc, pure_ok, bind_ok, ih, List.append_assoc]

theorem for3_eq (items : List Int) (nr sS o sg : Int) (acc : List Int) :
    Src.serialization.cell_to_children_for3 items nr sS o sg acc
      = items.mapM (fun i => sser { origin := o, segment := sg, S := sS + i, resolution := nr })
          >>= fun l => pure (acc ++ l) := by
  induction items generalizing acc with
  | nil => rw [Src.serialization.cell_to_children_for3, List.mapM_nil, pure_bind, List.append_nil]
  | cons i items ih =>
    rw [Src.serialization.cell_to_children_for3, List.mapM_cons]
    simp only [bind_assoc, pure_ok, bind_ok, ih, List.append_assoc, List.singleton_append]

theorem for2_eq (segs : List Int) (nr cnt sS o : Int) (acc : List Int) :
    Src.serialization.cell_to_children_for2 segs nr cnt sS o acc
      = (segs.flatMap fun sg => (Py.range cnt).map fun i => (sg, i)).mapM
          (fun p => sser { origin := o, segment := p.1, S := sS + p.2, resolution := nr })
          >>= fun l => pure (acc ++ l) :=
  forAppend _ _ (Src.serialization.cell_to_children_for2 · nr cnt sS o ·) (fun _ => rfl)
    (fun sg segs acc => by
      rw [Src.serialization.cell_to_children_for2, for3_eq, List.mapM_map]
      rfl) segs acc

theorem triples_as_map (o : Int) (segs items : List Int) :
    (segs.flatMap fun sg => items.map fun i => (o, sg, i))
      = (segs.flatMap fun sg => items.map fun i => (sg, i)).map (fun p => (o, p.1, p.2)) := by
  simp only [List.map_flatMap, List.map_map, Function.comp_def]

theorem for1_eq (os : List Int) (nr : Int) (segs : List Int) (cnt sS : Int) (acc : List Int) :
    Src.serialization.cell_to_children_for1 os nr segs cnt sS acc
      = (os.flatMap fun o => segs.flatMap fun sg => (Py.range cnt).map fun i => (o, sg, i)).mapM
          (fun t => sser { origin := t.1, segment := t.2.1, S := sS + t.2.2, resolution := nr })
          >>= fun l => pure (acc ++ l) :=
  forAppend _ _ (Src.serialization.cell_to_children_for1 · nr segs cnt sS ·) (fun _ => rfl)
    (fun o os acc => by
      rw [Src.serialization.cell_to_children_for1, for2_eq, triples_as_map, List.mapM_map]
      rfl) os acc

theorem triples_cast (os : List Nat) (segs : List Int) (cnt : Nat) :
    ((os.map Int.ofNat).flatMap fun o => segs.flatMap fun sg => (Py.range (cnt : Int)).map fun i => (o, sg, i))
      = (childTriples os segs cnt).map (fun t => ((t.1 : Int), t.2.1, (t.2.2 : Int))) := by
  unfold childTriples Py.range
  simp only [Int.toNat_natCast, Int.ofNat_eq_natCast, List.map_flatMap, List.flatMap_map, List.map_map, Function.comp_def]

theorem childTriples_origin {os : List Nat} {segs : List Int} {cnt : Nat} {t : Nat × Int × Nat}
    (h : t ∈ childTriples os segs cnt) : t.1 ∈ os := by
  unfold childTriples at h
  simp only [List.mem_flatMap, List.mem_map] at h
  obtain ⟨o, ho, s, _, i, _, rfl⟩ := h
  exact ho

/-- `cell_to_children` after its guards -/
theorem children_block (os : List Nat) (hos : ∀ o ∈ os, o < 12) (segs : List Int) (new S d : Int) (hd : 0 ≤ d) :
    (Py.pow 4 d >>= fun cnt => Py.shl S (2 * d) >>= fun sS =>
      Src.serialization.cell_to_children_for1 (os.map Int.ofNat) new segs cnt sS [])
    = Except.map (List.map Int.ofNat) ((childTriples os segs (4 ^ d.toNat)).mapM fun x =>
        serialize { origin := x.1, segment := x.2.1, S := S * 2 ^ (2 * d).toNat + (x.2.2 : Int), res := new }) := by
  have hcnt : ((4 : Int) ^ d.toNat) = ((4 ^ d.toNat : Nat) : Int) := (Int.natCast_pow 4 d.toNat).symm
  rw [pow_ok 4 d hd, shl_int S (2 * d) (by omega), bind_ok, bind_ok, for1_eq, hcnt, triples_cast, List.mapM_map]
  rw [← mapM_bridge _ _ _ fun t ht =>
    serialize_eq ⟨t.1, t.2.1, S * 2 ^ (2 * d).toNat + (t.2.2 : Int), new⟩ (hos _ (childTriples_origin ht))]
  simp only [bridge, List.nil_append]
  rfl

theorem cell_to_children_eq (index : Nat) (cr : Option Int) :
    Src.serialization.cell_to_children (index : Int) cr = (cellToChildren index cr).map (List.map Int.ofNat) := by
  unfold Src.serialization.cell_to_children cellToChildren
  rw [deserialize_eq]
  cases hd : deserialize index with
  | error e => rfl
  | ok c =>
    have ho := deserialize_origin_lt hd
    have hos : ∀ o ∈ (if c.res = -1 then Tables.ORIGIN_IDS else [c.origin]), o < 12 := by
      split
      · rw [ORIGIN_IDS_eq]
        exact fun o h => List.mem_range.1 h
      · exact fun o h => List.mem_singleton.1 h ▸ ho
    have hor : (if c.res = -1 then Py.origins else [(c.origin : Int)])
        = (if c.res = -1 then Tables.ORIGIN_IDS else [c.origin]).map Int.ofNat := by
      split <;> rfl
    simp only [bridge, cellOf, FHR_eq, MAXR_eq, hor]
    -- `match cr with …` in the source, `cr.getD …` in the model: as in `cell_to_parent_eq`
    cases cr
    all_goals
      refine ite_else fun _ => ite_else fun _ => ite_else fun _ => ?_
      exact children_block _ hos _ _ _ _ (Int.le_max_left 0 _)

end A5.Bridge
