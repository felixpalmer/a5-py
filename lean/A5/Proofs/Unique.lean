/-
  Antichains and reduced lists (no parent has all its children in the list), on the covering relation alone:
  the reduced antichain representing a region is unique.
-/
import A5.Proofs.Cover

namespace A5

/-- no cell of the list is an ancestor of another (duplicates allowed) -/
def Antichain (X : List Nat) : Prop := ∀ a, a ∈ X → ∀ b, b ∈ X → Covers a b → a = b

def HasCompleteGroup (Y : List Nat) (q : Nat) : Prop :=
  ∀ x, ValidId x → getResolution x = getResolution q + 1 → Covers q x → x ∈ Y

def Reduced (A : List Nat) : Prop := ∀ q, ValidId q → getResolution q ≤ 28 → ¬ HasCompleteGroup A q

def IsLeaf (x : Nat) : Prop := ValidId x ∧ getResolution x = 29

/-- Induction from the finest level up: if no member is above `c`, each child of `c` is covered, hence (not from above `c`)
    is itself in the list, and the children form a complete group. -/
theorem reduced_covers {A : List Nat} (hvA : ∀ a, a ∈ A → ValidId a) (hred : Reduced A) {c : Nat} (hvc : ValidId c)
    (hcov : ∀ x, IsLeaf x → Covers c x → CoveredBy A x) : CoveredBy A c := by
  obtain ⟨n, hr⟩ : ∃ n : Nat, getResolution c + n = 29 := Int.le.dest (getResolution_range c).2
  induction n generalizing c with
  | zero => exact hcov c ⟨hvc, by omega⟩ (covers_self hvc)
  | succ n ih =>
    refine Classical.byContradiction fun hno => hred c hvc (by omega) fun s hvs hrs hcs => ?_
    obtain ⟨e, heA, hes⟩ := ih hvs (fun x hx hsx => hcov x hx (covers_trans hvc hvs hx.1 hcs hsx)) (by omega)
    have hve := hvA e heA
    by_cases hle : getResolution e ≤ getResolution c
    · exact absurd ⟨e, heA, covers_chain hve hvc hvs hes hcs hle⟩ hno
    · have := covers_res hve hvs hes
      obtain rfl := covers_eq_of_res hve hvs hes (by omega)
      exact heA

theorem reduced_subset {A B : List Nat} (hvA : ∀ a, a ∈ A → ValidId a) (hvB : ∀ b, b ∈ B → ValidId b)
    (hA : Antichain A) (rA : Reduced A) (rB : Reduced B)
    (hcov : ∀ x, IsLeaf x → (CoveredBy A x ↔ CoveredBy B x)) : ∀ a, a ∈ A → a ∈ B := by
  intro a haA
  have hva := hvA a haA
  -- B covers what a covers, so some b ∈ B is above a; likewise some a' ∈ A is above b; then a' = a = b
  obtain ⟨b, hbB, hba⟩ := reduced_covers hvB rB hva fun x hx hax => (hcov x hx).1 ⟨a, haA, hax⟩
  have hvb := hvB b hbB
  obtain ⟨a', ha'A, ha'b⟩ := reduced_covers hvA rA hvb fun x hx hbx => (hcov x hx).2 ⟨b, hbB, hbx⟩
  obtain rfl := hA a' ha'A a haA (covers_trans (hvA a' ha'A) hvb hva ha'b hba)
  obtain rfl := covers_antisymm hvb hva hba ha'b
  exact hbB

end A5
