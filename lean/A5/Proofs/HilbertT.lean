/-
  C18, combinatorial half: the model's finite helpers equal the tables obtained by calling the real functions on
  their whole domains, and the digit-shifting transducer is a bijection of digit strings of every length.
  Core Lean only.
-/
import A5.Proofs.HilbertDigits

namespace A5.Hilbert

theorem pattern_reversed_eq : reversePattern PATTERN = Tables.PATTERN_REVERSED := by decide
theorem pattern_flipped_reversed_eq : reversePattern PATTERN_FLIPPED = Tables.PATTERN_FLIPPED_REVERSED := by decide

def flipOfInt (x : Int) : Bool := x == -1
def intOfFlip (b : Bool) : Int := if b then -1 else 1

theorem yes_no_eq : Tables.YES = -1 ∧ Tables.NO = 1 := by decide

theorem q2flips_eq : (List.range 4).map (fun d => (intOfFlip (qflips d).1, intOfFlip (qflips d).2)) = Tables.Q2FLIPS_TABLE := by decide

theorem q2kj_eq :
    ([false, true].flatMap fun fx => [false, true].flatMap fun fy => (List.range 4).map fun d =>
      (intOfFlip fx, intOfFlip fy, d, (kjOf d (fx, fy)).1, (kjOf d (fx, fy)).2)) = Tables.Q2KJ_TABLE := by decide

def patternById (i : Nat) : List Nat :=
  if i = 0 then PATTERN else if i = 1 then PATTERN_FLIPPED else if i = 2 then reversePattern PATTERN else reversePattern PATTERN_FLIPPED

/-- one `_shift_digits` step of the model on the whole 512-element domain, in the generator's order -/
def modelShiftTable : List Tables.ShiftRow :=
  (List.range 4).flatMap fun pi => [false, true].flatMap fun inv => [(false, false), (false, true), (true, false), (true, true)].flatMap fun fl =>
    (List.range 4).flatMap fun parent => (List.range 4).map fun child =>
      let r := shiftStep (patternById pi) inv fl parent child
      ⟨pi, if inv then 1 else 0, intOfFlip fl.1, intOfFlip fl.2, parent, child, r.1, r.2⟩

theorem shift_table_eq : modelShiftTable = Tables.SHIFT_TABLE := by decide +kernel

theorem flip_shift_eq : Tables.FLIP_SHIFT = (-1, 1) := by decide

/-- the step reads `invertJ` and the two flips through one bit only: the table below needs 2 × 2 × 16 rows -/
theorem shiftStep_flags (pat : List Nat) (inv : Bool) (f : Flips) (p c : Nat) :
    shiftStep pat inv f p c = shiftStep pat (inv != (f.1 != f.2)) (false, false) p c := by
  obtain ⟨fx, fy⟩ := f
  cases inv <;> cases fx <;> cases fy <;> rfl

theorem step_table : ∀ (flipIJ g : Bool) (p c : Fin 4),
    let pat := if flipIJ then PATTERN_FLIPPED else PATTERN
    let r := shiftStep pat g (false, false) p.val c.val
    let r' := shiftStep (reversePattern pat) g (false, false) p.val c.val
    shiftStep (reversePattern pat) g (false, false) r.1 r.2 = (p.val, c.val) ∧
      shiftStep pat g (false, false) r'.1 r'.2 = (p.val, c.val) := by
  decide

/-- a step with the table `rpat` undoes a step with `pat` (`pat` is applied first) -/
def StepInv (pat rpat : List Nat) (inv : Bool) : Prop :=
  ∀ (f : Flips) {p c : Nat}, p < 4 → c < 4 →
    shiftStep rpat inv f (shiftStep pat inv f p c).1 (shiftStep pat inv f p c).2 = (p, c)

theorem step_inv (flipIJ inv : Bool) :
    StepInv (if flipIJ then PATTERN_FLIPPED else PATTERN) (reversePattern (if flipIJ then PATTERN_FLIPPED else PATTERN)) inv ∧
      StepInv (reversePattern (if flipIJ then PATTERN_FLIPPED else PATTERN)) (if flipIJ then PATTERN_FLIPPED else PATTERN) inv := by
  constructor
  · intro f p c hp hc
    rw [shiftStep_flags _ inv f p c, shiftStep_flags (reversePattern _)]
    exact (step_table flipIJ _ ⟨p, hp⟩ ⟨c, hc⟩).1
  · intro f p c hp hc
    rw [shiftStep_flags _ inv f p c, shiftStep_flags (if flipIJ then PATTERN_FLIPPED else PATTERN)]
    exact (step_table flipIJ _ ⟨p, hp⟩ ⟨c, hc⟩).2

theorem fwd_ne_nil (pat : List Nat) (inv : Bool) (P : Nat) (f : Flips) (cs : List Nat) : fwd pat inv P f cs ≠ [] := by
  cases cs <;> simp [fwd]

theorem bwd_cons (rpat : List Nat) (inv : Bool) (f : Flips) (d : Nat) {l : List Nat} (hl : l ≠ []) :
    bwd rpat inv f (d :: l) =
      ((shiftStep rpat inv f d (bwd rpat inv (fmul f (qflips d)) l).1).1,
        (shiftStep rpat inv f d (bwd rpat inv (fmul f (qflips d)) l).1).2 :: (bwd rpat inv (fmul f (qflips d)) l).2) := by
  cases l with
  | nil => exact absurd rfl hl
  | cons _ _ => rfl

variable {pat rpat : List Nat} {inv : Bool}

theorem bwd_fwd (h : StepInv pat rpat inv) (cs : List Nat) (P : Nat) (f : Flips) (hP : P < 4) (hcs : ∀ c ∈ cs, c < 4) :
    bwd rpat inv f (fwd pat inv P f cs) = (P, cs) := by
  induction cs generalizing P f with
  | nil => rfl
  | cons c cs ih =>
    obtain ⟨hc, hcs⟩ := List.forall_mem_cons.1 hcs
    rw [fwd, bwd_cons _ _ _ _ (fwd_ne_nil _ _ _ _ _), ih _ _ (shiftStep_lt pat inv f hP hc).2 hcs]
    simp only [h f hP hc]

theorem unshift_shift (h : StepInv pat rpat inv) (ds : List Nat) (hds : ∀ d ∈ ds, d < 4) :
    unshiftAll rpat inv (shiftAll pat inv ds) = ds := by
  cases ds with
  | nil => rfl
  | cons d rest =>
    obtain ⟨hd, hrest⟩ := List.forall_mem_cons.1 hds
    have hb := bwd_fwd h rest d (false, false) hd hrest
    cases hf : fwd pat inv d (false, false) rest with
    | nil => exact absurd hf (fwd_ne_nil _ _ _ _ _)
    | cons y ys =>
      rw [hf] at hb
      simp only [shiftAll, unshiftAll, hf, hb]

theorem fwd_bwd (h : StepInv rpat pat inv) (l : List Nat) (f : Flips) (hne : l ≠ []) (hl : ∀ d ∈ l, d < 4) :
    fwd pat inv (bwd rpat inv f l).1 f (bwd rpat inv f l).2 = l := by
  induction l generalizing f with
  | nil => exact absurd rfl hne
  | cons d rest ih =>
    obtain ⟨hd, hrest⟩ := List.forall_mem_cons.1 hl
    cases rest with
    | nil => rfl
    | cons d2 ds =>
      have hb := (bwd_spec rpat inv (d2 :: ds) (fmul f (qflips d)) hrest).1
      rw [bwd_cons _ _ _ _ (List.cons_ne_nil _ _), fwd, h f hd hb, ih _ (List.cons_ne_nil _ _) hrest]

theorem shift_unshift (h : StepInv rpat pat inv) (ds : List Nat) (hds : ∀ d ∈ ds, d < 4) :
    shiftAll pat inv (unshiftAll rpat inv ds) = ds := by
  cases ds with
  | nil => rfl
  | cons d rest => exact fwd_bwd h (d :: rest) (false, false) (List.cons_ne_nil _ _) hds

end A5.Hilbert
