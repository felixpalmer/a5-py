/-
  C18: the base-4 digits of an index (the converse, `digits_value`, is in HilbertFill), and the round trip of the core functions
  `_s_to_anchor` / `_ij_to_s` in exact arithmetic, for every level and every index; the cells of an index and of its parent index
  s / 4 differ in the last step of the digit transducer only (`parent_child_core`, what C07 uses of the curve).
-/
import A5.Proofs.HilbertG

namespace A5.Hilbert

theorem div_four_lt {s n : Nat} (hs : s < 4 ^ (n + 1)) : s / 4 < 4 ^ n :=
  Nat.div_lt_of_lt_mul (by rwa [Nat.pow_succ'] at hs)

theorem digitsLSB_succ (fuel s n : Nat) : digitsLSB (fuel + 1) s (n + 1) = s % 4 :: digitsLSB fuel (s / 4) n := by
  rw [digitsLSB, if_pos (Or.inr n.succ_pos), Nat.add_sub_cancel]

theorem digitsLSB_fuel : ∀ (n fuel fuel' s : Nat), n < fuel → n < fuel' → s < 4 ^ n → digitsLSB fuel s n = digitsLSB fuel' s n
  | 0, fuel + 1, fuel' + 1, s, _, _, hs => by
    obtain rfl : s = 0 := by simpa using hs
    simp [digitsLSB]
  | n + 1, fuel + 1, fuel' + 1, s, hf, hf', hs => by
    rw [digitsLSB_succ, digitsLSB_succ,
      digitsLSB_fuel n fuel fuel' (s / 4) (Nat.lt_of_succ_lt_succ hf) (Nat.lt_of_succ_lt_succ hf') (div_four_lt hs)]

theorem digitsMSB_succ (n s : Nat) (hs : s < 4 ^ (n + 1)) : digitsMSB s (n + 1) = digitsMSB (s / 4) n ++ [s % 4] := by
  rw [digitsMSB, digitsMSB, digitsLSB_succ, List.reverse_cons,
    digitsLSB_fuel n _ (s / 4 + n + 1) (s / 4) (by omega) (by omega) (div_four_lt hs)]

theorem valueMSB_append (xs : List Nat) (d : Nat) : valueMSB (xs ++ [d]) = 4 * valueMSB xs + d := by
  simp [valueMSB, List.foldl_append]

theorem digits_spec : ∀ (n s : Nat), s < 4 ^ n →
    (digitsMSB s n).length = n ∧ (∀ d ∈ digitsMSB s n, d < 4) ∧ valueMSB (digitsMSB s n) = s
  | 0, s, hs => by
    obtain rfl : s = 0 := by simpa using hs
    exact ⟨rfl, by simp [digitsMSB, digitsLSB], rfl⟩
  | n + 1, s, hs => by
    obtain ⟨h1, h2, h3⟩ := digits_spec n (s / 4) (div_four_lt hs)
    rw [digitsMSB_succ n s hs, valueMSB_append, h3, List.length_append, h1]
    exact ⟨rfl, List.forall_mem_append.2 ⟨h2, List.forall_mem_singleton.2 (Nat.mod_lt s (by decide))⟩, Nat.div_add_mod s 4⟩

theorem shiftAll_digits_spec (pat : List Nat) (inv : Bool) {n s : Nat} (hs : s < 4 ^ n) :
    (∀ x ∈ shiftAll pat inv (digitsMSB s n), x < 4) ∧ (shiftAll pat inv (digitsMSB s n)).length = n := by
  obtain ⟨hlen, hlt, -⟩ := digits_spec n s hs
  obtain ⟨hslt, hslen⟩ := shiftAll_spec pat inv (digitsMSB s n) hlt
  exact ⟨hslt, hslen.trans hlen⟩

theorem roundtrip_core (n s : Nat) (hs : s < 4 ^ n) (inv flip : Bool) (x y : ℚ)
    (h : Tri (sToAnchorCore s n inv flip).flips 1 (x - (sToAnchorCore s n inv flip).i) (y - (sToAnchorCore s n inv flip).j)) :
    ijToSCore x y inv flip n = s := by
  obtain ⟨-, hlt, hval⟩ := digits_spec n s hs
  obtain ⟨hslt, hslen⟩ := shiftAll_digits_spec (if flip then PATTERN_FLIPPED else PATTERN) inv hs
  rw [sToAnchorCore_eq] at h
  have hdec := decode_open _ hslt (false, false) 0 0 x y (by simpa using h)
  rw [hslen] at hdec
  simp only [ijToSCore, Scalar.ofInt, Int.cast_zero]
  rw [hdec, unshift_shift (step_inv flip inv).1 _ hlt, hval]

/-- a leading digit only moves the offset and the flips, unless it is the last one (which is the anchor's `k`) -/
theorem anchorOf_cons_of_ne_nil (base : Int × Int) (f : Flips) (x : Nat) {xs : List Nat} (h : xs ≠ []) :
    anchorOf base f (x :: xs) = anchorOf (base.1 * 2 + (kjOf x f).1, base.2 * 2 + (kjOf x f).2) (fmul f (qflips x)) xs := by
  cases xs with
  | nil => exact absurd rfl h
  | cons y ys => rfl

/-- one more input digit `c` replaces the pending digit `P'` by the two digits of one more `shiftStep` -/
theorem fwd_anchor (pat : List Nat) (inv : Bool) (c : Nat) : ∀ (cs : List Nat) (P : Nat) (f : Flips) (base : Int × Int),
    P < 4 → (∀ d ∈ cs, d < 4) → ∃ (base' : Int × Int) (f' : Flips) (P' : Nat), P' < 4 ∧
      anchorOf base f (fwd pat inv P f cs) = anchorOf base' f' [P'] ∧
      anchorOf base f (fwd pat inv P f (cs ++ [c])) =
        anchorOf base' f' [(shiftStep pat inv f' P' c).1, (shiftStep pat inv f' P' c).2]
  | [], P, f, base, hP, _ => ⟨base, f, P, hP, rfl, rfl⟩
  | d :: cs, P, f, base, hP, hcs => by
    obtain ⟨hd, hcs⟩ := List.forall_mem_cons.1 hcs
    obtain ⟨b, f', P', h1, h2, h3⟩ := fwd_anchor pat inv c cs _ (fmul f (qflips (shiftStep pat inv f P d).1))
      (base.1 * 2 + (kjOf (shiftStep pat inv f P d).1 f).1, base.2 * 2 + (kjOf (shiftStep pat inv f P d).1 f).2)
      (shiftStep_lt pat inv f hP hd).2 hcs
    refine ⟨b, f', P', h1, ?_, ?_⟩
    · rw [fwd, anchorOf_cons_of_ne_nil _ _ _ (fwd_ne_nil _ _ _ _ _), h2]
    · rw [List.cons_append, fwd, anchorOf_cons_of_ne_nil _ _ _ (fwd_ne_nil _ _ _ _ _), h3]

theorem parent_child_core (n s : Nat) (hn : 0 < n) (hs : s < 4 ^ (n + 1)) (inv flipIJ : Bool) :
    ∃ (base : Int × Int) (f : Flips) (P c : Nat), P < 4 ∧ c < 4 ∧
      sToAnchorCore (s / 4) n inv flipIJ = anchorOf base f [P] ∧
      sToAnchorCore s (n + 1) inv flipIJ = anchorOf base f
        [(shiftStep (if flipIJ then PATTERN_FLIPPED else PATTERN) inv f P c).1, (shiftStep (if flipIJ then PATTERN_FLIPPED else PATTERN) inv f P c).2] := by
  have hs4 := div_four_lt hs
  obtain ⟨hlen, hlt, -⟩ := digits_spec n (s / 4) hs4
  rw [sToAnchorCore_eq, sToAnchorCore_eq, digitsMSB_succ n s hs]
  cases hds : digitsMSB (s / 4) n with
  | nil => rw [hds, List.length_nil] at hlen; omega
  | cons d0 cs =>
    obtain ⟨hd0, hcs⟩ := List.forall_mem_cons.1 (hds ▸ hlt)
    obtain ⟨b, f, P, hP, h1, h2⟩ := fwd_anchor _ inv (s % 4) cs d0 (false, false) (0, 0) hd0 hcs
    exact ⟨b, f, P, s % 4, hP, Nat.mod_lt _ (by decide), h1, h2⟩

end A5.Hilbert
